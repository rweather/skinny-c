/-
The loops of the C code are folds over `List.range` in the model.  What the proofs use about folds in general.
-/
namespace SkinnyVerif

/-- a loop whose steps commute with an abstraction commutes with it -/
theorem foldl_abs {α β γ : Type} (abs : α → β) (f : α → γ → α) (g : β → γ → β) (l : List γ)
    (h : ∀ a, ∀ i ∈ l, abs (f a i) = g (abs a) i) (a : α) : abs (l.foldl f a) = l.foldl g (abs a) := by
  induction l generalizing a with
  | nil => rfl
  | cons i rest ih =>
    rw [List.foldl_cons, List.foldl_cons, ih (fun a j hj => h a j (List.mem_cons_of_mem _ hj)), h a i List.mem_cons_self]

/-- undoing the steps of a loop in reverse order -/
theorem foldl_reverse_cancel {α ι : Type} (f g : α → ι → α) (h : ∀ x i, g (f x i) i = x) (l : List ι) (x : α) :
    l.reverse.foldl g (l.foldl f x) = x := by
  induction l generalizing x with
  | nil => rfl
  | cons a l ih => rw [List.foldl_cons, List.reverse_cons, List.foldl_append, ih]; exact h x a

theorem foldl_cancel_reverse {α ι : Type} (f g : α → ι → α) (h : ∀ x i, g (f x i) i = x) (l : List ι) (x : α) :
    l.foldl g (l.reverse.foldl f x) = x := by
  have := foldl_reverse_cancel f g h l.reverse x
  rwa [List.reverse_reverse] at this

theorem range_reverse (r : Nat) : (List.range r).reverse = (List.range r).map (fun i => r - 1 - i) := by
  apply List.ext_getElem
  · simp
  · intro i h1 h2
    simp only [List.getElem_reverse, List.getElem_range, List.getElem_map, List.length_range]

/-- a loop that counts `i` up and works on `r - 1 - i` (the decryption loops walk their tables backwards) runs over
the reversed range -/
theorem foldl_countdown {β : Type} (f : β → Nat → β) (r : Nat) (b : β) :
    (List.range r).foldl (fun acc i => f acc (r - 1 - i)) b = (List.range r).reverse.foldl f b := by
  rw [range_reverse, List.foldl_map]

/-- a run of calls that collects the outputs, started with some already collected, only prepends them -/
theorem foldl_outs {σ α β : Type} (f : σ → α → σ × β) (l : List α) (s : σ) (outs : List β) :
    l.foldl (fun (acc : σ × List β) a => let r := f acc.1 a; (r.1, acc.2 ++ [r.2])) (s, outs) =
      ((l.foldl (fun (acc : σ × List β) a => let r := f acc.1 a; (r.1, acc.2 ++ [r.2])) (s, [])).1,
        outs ++ (l.foldl (fun (acc : σ × List β) a => let r := f acc.1 a; (r.1, acc.2 ++ [r.2])) (s, [])).2) := by
  induction l generalizing s outs with
  | nil => simp
  | cons a l ih =>
    simp only [List.foldl_cons, List.nil_append]
    rw [ih _ (outs ++ _), ih _ [_], List.append_assoc]

end SkinnyVerif
