/-
Simp attributes.
`gen_unfold`: carried by every generated stage definition and by every generated function or piece
that proofs reason about by unfolding (everything except the lane-structured leaf functions --
S-boxes and LFSRs -- which are used through their lane lemmas).
`win`: the window lemmas of `Basic/Windows.lean`, the window form of the lane lemmas
(`Gen/*LeafLanes.lean`) and the tables of `Lemmas/Tables.lean`.
-/
import Lean
register_simp_attr gen_unfold
register_simp_attr win
