/-
Lanes (cells) of machine words: `lane k i x` is the `i`-th `k`-bit lane of `x`, counting from
the least significant end.  For the little-endian memory images used throughout the
generated layer, byte `i` of an object is `lane 8 i image`.
-/
import SkinnyVerif.Basic.Tactics

namespace SkinnyVerif

def lane (k i : Nat) {w : Nat} (x : BitVec w) : BitVec k := x.extractLsb' (k * i) k

theorem getLsbD_lane (k i : Nat) {w : Nat} (x : BitVec w) (m : Nat) :
    (lane k i x).getLsbD m = (decide (m < k) && x.getLsbD (k * i + m)) := by
  simp [lane, BitVec.getLsbD_extractLsb']

/-- bit `p` of a word is bit `p % k` of its lane `p / k` -/
theorem getLsbD_eq_lane (k : Nat) (hk : 0 < k) {w : Nat} (x : BitVec w) (p : Nat) :
    x.getLsbD p = (lane k (p / k) x).getLsbD (p % k) := by
  rw [getLsbD_lane, Nat.div_add_mod, decide_eq_true (Nat.mod_lt p hk), Bool.true_and]

/-- Two words with equal lanes are equal. -/
theorem eq_of_lanes {w : Nat} (k n : Nat) (hk : 0 < k) (hw : w ≤ k * n) (a b : BitVec w)
    (h : ∀ i, i < n → lane k i a = lane k i b) : a = b := by
  apply BitVec.eq_of_getLsbD_eq
  intro j hj
  rw [getLsbD_eq_lane k hk a, getLsbD_eq_lane k hk b, h (j / k) (Nat.div_lt_of_lt_mul (by omega))]

/-- `n` lanes of width `k` packed into one word (lane `i` at bits `k*i …`). -/
def packLanes (k : Nat) (w : Nat) (f : Nat → BitVec k) : Nat → BitVec w
  | 0 => 0
  | n + 1 => packLanes k w f n ||| ((f n).setWidth w <<< (k * n))

/-- apply `f` to each of the `n` `k`-bit lanes of a `w`-bit word -/
def mapLanes (k n : Nat) {w : Nat} (f : BitVec k → BitVec k) (x : BitVec w) : BitVec w :=
  packLanes k w (fun i => f (lane k i x)) n

theorem lane_packLanes (k w : Nat) (f : Nat → BitVec k) (n i : Nat) (hw : k * n ≤ w) :
    lane k i (packLanes k w f n) = if i < n then f i else 0 := by
  induction n with
  | zero => simp [packLanes, lane]
  | succ n ih =>
    have hw' : k * n ≤ w := by
      have : k * n ≤ k * (n + 1) := Nat.mul_le_mul_left k (Nat.le_succ n)
      omega
    apply BitVec.eq_of_getLsbD_eq
    intro m hm
    have ih' := congrArg (fun v => v.getLsbD m) (ih hw')
    simp only [getLsbD_lane] at ih'
    simp only [packLanes, getLsbD_lane, BitVec.getLsbD_or, BitVec.getLsbD_shiftLeft,
      BitVec.getLsbD_setWidth, hm, decide_true, Bool.true_and] at ih' ⊢
    rw [ih']
    have hmul : k * (n + 1) = k * n + k := Nat.mul_succ k n
    by_cases hin : i < n
    · have h1 : i < n + 1 := by omega
      have h2 : k * i + m < k * n := by
        have : k * (i + 1) ≤ k * n := Nat.mul_le_mul_left k hin
        rw [Nat.mul_succ] at this; omega
      simp [hin, h1, h2]
    · by_cases hie : i = n
      · subst hie
        have hlt : k * i + m < w := by omega
        have hmw : m < w := by omega
        have hnl : ¬ (k * i + m < k * i) := by omega
        simp [hlt, hmw, hnl]
      · have h1 : ¬ i < n + 1 := by omega
        have h3 : k * (n + 1) ≤ k * i := Nat.mul_le_mul_left k (by omega)
        have h2 : ¬ k * i + m < k * n := by omega
        have h4 : k * i + m - k * n ≥ k := by omega
        simp [hin, h1, h2]
        intro _ _
        exact BitVec.getLsbD_of_ge _ _ h4

theorem lane_mapLanes (k n : Nat) {w : Nat} (f : BitVec k → BitVec k) (x : BitVec w) (i : Nat)
    (hw : k * n ≤ w) (hi : i < n) : lane k i (mapLanes k n f x) = f (lane k i x) := by
  simp [mapLanes, lane_packLanes k w _ n i hw, hi]

/-- A word function that acts on each lane as `g` is `mapLanes g`. -/
theorem eq_mapLanes {w : Nat} (k n : Nat) (hk : 0 < k) (hw : w = k * n) (F : BitVec w → BitVec w)
    (g : BitVec k → BitVec k) (h : ∀ x i, i < n → lane k i (F x) = g (lane k i x)) (x : BitVec w) :
    F x = mapLanes k n g x := by
  apply eq_of_lanes k n hk (by omega)
  intro i hi
  rw [h x i hi, lane_mapLanes k n g x i (by omega) hi]

/-- bit `p` of a lane-wise function is bit `p % k` of the lane function applied to lane `p / k` -/
theorem getLsbD_of_lanes {w : Nat} (k n : Nat) (hk : 0 < k) (F : BitVec w → BitVec w) (g : BitVec k → BitVec k)
    (h : ∀ x i, i < n → lane k i (F x) = g (lane k i x)) (x : BitVec w) (p : Nat) (hp : p < k * n) :
    (F x).getLsbD p = (g (lane k (p / k) x)).getLsbD (p % k) := by
  rw [getLsbD_eq_lane k hk (F x), h x (p / k) (Nat.div_lt_of_lt_mul hp)]

/-- lane of a sub-word extracted at a lane boundary -/
theorem lane_extractLsb' {w : Nat} (k i s n : Nat) (x : BitVec w) (h : k * (i + 1) ≤ n) :
    lane k i (BitVec.extractLsb' s n x) = BitVec.extractLsb' (s + k * i) k x := by
  apply BitVec.eq_of_getLsbD_eq
  intro m hm
  have : k * i + m < n := by
    have : k * (i + 1) = k * i + k := Nat.mul_succ k i
    omega
  simp [lane, hm, this, Nat.add_assoc]

end SkinnyVerif
