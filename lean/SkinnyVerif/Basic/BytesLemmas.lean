/-
Facts about the definitions of `Basic/Bytes.lean`: the little-endian value of a byte string, its memory
image and the byte lanes of the image, big-endian numbers, padding, xor.
-/
import SkinnyVerif.Basic.Bytes
import SkinnyVerif.Basic.Lanes
import SkinnyVerif.Basic.Loops

namespace SkinnyVerif

/-! ## the little-endian value -/

theorem pow_256 (n : Nat) : 256 ^ n = 2 ^ (8 * n) := by rw [Nat.pow_mul]

theorem leNat_lt (l : Bytes) : leNat l < 2 ^ (8 * l.length) := by
  rw [← pow_256]
  induction l with
  | nil => simp [leNat]
  | cons x xs ih =>
    have hx : x.toNat < 256 := x.toNat_lt
    simp only [leNat, List.length_cons, Nat.pow_succ]
    omega

theorem leNat_append (a b : Bytes) : leNat (a ++ b) = leNat a + 256 ^ a.length * leNat b := by
  induction a with
  | nil => simp [leNat]
  | cons x xs ih =>
    simp only [List.cons_append, leNat, ih, List.length_cons, Nat.pow_succ]
    rw [Nat.mul_add, ← Nat.mul_assoc, Nat.mul_comm 256 (256 ^ xs.length)]
    omega

theorem leNat_zeros (n : Nat) : leNat (zeros n) = 0 := by
  induction n with
  | zero => rfl
  | succ n ih => rw [zeros, List.replicate_succ, leNat, ← zeros, ih]; rfl

theorem leNat_append_zeros (l : Bytes) (n : Nat) : leNat (l ++ zeros n) = leNat l := by
  rw [leNat_append, leNat_zeros, Nat.mul_zero, Nat.add_zero]

/-- byte `i` of the little-endian value -/
theorem leNat_byte (l : Bytes) (i : Nat) : (leNat l >>> (8 * i)) % 256 = (l.getD i 0).toNat := by
  induction l generalizing i with
  | nil => simp [leNat]
  | cons x xs ih =>
    have hx : x.toNat < 256 := x.toNat_lt
    cases i with
    | zero => simp only [leNat, Nat.mul_zero, Nat.shiftRight_zero, List.getD_cons_zero]; omega
    | succ i =>
      have : 8 * (i + 1) = 8 + 8 * i := by omega
      have h8 : (leNat (x :: xs)) >>> 8 = leNat xs := by
        simp only [leNat, Nat.shiftRight_eq_div_pow]; omega
      rw [this, Nat.shiftRight_add, h8, ih i]
      simp

/-! ## memory images -/

theorem image_nil (w : Nat) : image w [] = 0 := rfl

/-- the image only depends on the first `n` bytes when `w ≤ 8 n`: the others are multiplied by `256 ^ n` -/
theorem image_take (w : Nat) (l : Bytes) (n : Nat) (h : w ≤ 8 * n) : image w (l.take n) = image w l := by
  rcases Nat.le_total l.length n with hl | hl
  · rw [List.take_of_length_le hl]
  · have hs := leNat_append (l.take n) (l.drop n)
    rw [List.take_append_drop, List.length_take, Nat.min_eq_left hl, pow_256] at hs
    obtain ⟨c, hc⟩ := Nat.pow_dvd_pow 2 h
    apply BitVec.eq_of_toNat_eq
    simp only [image, BitVec.toNat_ofNat]
    rw [hs, hc, Nat.mul_assoc, Nat.add_mul_mod_self_left]

/-- masking an image of at most `k` bytes with `2^(8k) - 1` does nothing -/
theorem image_and_mask (w : Nat) (l : Bytes) (k : Nat) (h : l.length ≤ k) :
    image w l &&& BitVec.ofNat w (2 ^ (8 * k) - 1) = image w l := by
  apply BitVec.eq_of_toNat_eq
  simp only [image, BitVec.toNat_and, BitVec.toNat_ofNat]
  have hl : leNat l < 2 ^ (8 * k) := Nat.lt_of_lt_of_le (leNat_lt l) (Nat.pow_le_pow_right (by decide) (by omega))
  have hm : leNat l % 2 ^ w < 2 ^ (8 * k) := Nat.lt_of_le_of_lt (Nat.mod_le _ _) hl
  apply Nat.eq_of_testBit_eq
  intro i
  simp only [Nat.testBit_and, Nat.testBit_mod_two_pow, Nat.testBit_two_pow_sub_one]
  by_cases hi : i < 8 * k
  · simp [hi]
    intro h1 _; exact h1
  · have : (leNat l).testBit i = false := Nat.testBit_lt_two_pow (Nat.lt_of_lt_of_le hl (Nat.pow_le_pow_right (by decide) (by omega)))
    simp [this]

theorem image_append_zeros (w : Nat) (l : Bytes) (n : Nat) : image w (l ++ zeros n) = image w l := by
  simp [image, leNat_append_zeros]

/-- bits `s ..< s + k` of `n` survive a reduction mod `2^w` that keeps them -/
theorem shiftRight_mod_two_pow (n w s k : Nat) (h : s + k ≤ w) : (n % 2 ^ w) >>> s % 2 ^ k = n >>> s % 2 ^ k := by
  apply Nat.eq_of_testBit_eq
  intro j
  simp only [Nat.testBit_mod_two_pow, Nat.testBit_shiftRight]
  by_cases hj : j < k
  · simp [hj, (by omega : s + j < w)]
  · simp [hj]

/-- byte lane `i` of an image is byte `i` of the string -/
theorem lane8_image (w : Nat) (l : Bytes) (i : Nat) (h : 8 * (i + 1) ≤ w) :
    lane 8 i (image w l) = BitVec.ofNat 8 (l.getD i 0).toNat := by
  apply BitVec.eq_of_toNat_eq
  simp only [lane, image, BitVec.toNat_ofNat, BitVec.extractLsb'_toNat]
  rw [shiftRight_mod_two_pow _ w _ 8 (by omega), show (2 : Nat) ^ 8 = 256 from rfl, leNat_byte]
  exact (Nat.mod_eq_of_lt (l.getD i 0).toNat_lt).symm

/-- nibble lane `j` of an image: the low (even `j`) or high (odd `j`) nibble of byte `j / 2` -/
theorem lane4_image (w : Nat) (l : Bytes) (j : Nat) (h : 4 * (j + 1) ≤ w) :
    lane 4 j (image w l) = BitVec.ofNat 4 (if j % 2 = 0 then (l.getD (j / 2) 0).toNat % 16 else (l.getD (j / 2) 0).toNat / 16) := by
  apply BitVec.eq_of_toNat_eq
  simp only [lane, image, BitVec.toNat_ofNat, BitVec.extractLsb'_toNat]
  rw [shiftRight_mod_two_pow _ w _ 4 (by omega), show 4 * j = 8 * (j / 2) + 4 * (j % 2) by omega, Nat.shiftRight_add,
    ← shiftRight_mod_two_pow _ 8 _ 4 (by omega), show (2 : Nat) ^ 8 = 256 from rfl, leNat_byte]
  split
  · rename_i hj; rw [hj]; simp
  · have hj1 : j % 2 = 1 := by omega
    rw [hj1, Nat.shiftRight_eq_div_pow]

theorem lanes_image (w n : Nat) (c : Bytes) (hn : c.length = n) (hw : 8 * n ≤ w) :
    (List.range n).map (fun i => lane 8 i (image w c)) = c.map fun u => BitVec.ofNat 8 u.toNat := by
  apply List.ext_getElem
  · simp [hn]
  · intro i h1 h2
    have hi : i < c.length := by simpa using h2
    simp only [List.getElem_map, List.getElem_range]
    rw [lane8_image w c i (by omega), List.getD_eq_getElem?_getD, List.getElem?_eq_getElem hi, Option.getD_some]

/-- a window of whole bytes of an image is the image of the bytes from there on -/
theorem image_window (W n : Nat) (l : Bytes) (k : Nat) (h : 8 * k + 8 * n ≤ W) :
    (image W l).extractLsb' (8 * k) (8 * n) = image (8 * n) (l.drop k) := by
  apply eq_of_lanes 8 n (by decide) (Nat.le_refl _)
  intro i hi
  have e : 8 * k + 8 * i = 8 * (k + i) := by omega
  rw [lane_extractLsb' 8 i _ _ _ (by omega), e, ← lane, lane8_image W l _ (by omega), lane8_image _ _ i (by omega),
    List.getD_eq_getElem?_getD, List.getD_eq_getElem?_getD, List.getElem?_drop]

theorem image_window64 (W : Nat) (l : Bytes) (k : Nat) (h : 8 * k + 64 ≤ W) :
    (image W l).extractLsb' (8 * k) 64 = image 64 (l.drop k) := image_window W 8 l k h

/-! ## reading bytes back -/

theorem bytesOf_lanes {w : Nat} (n : Nat) (x : BitVec w) :
    bytesOf n x = (List.range n).map fun i => UInt8.ofNat (lane 8 i x).toNat := by
  simp [bytesOf, lane, BitVec.extractLsb'_toNat]

/-- a byte string of exactly `n` bytes is recovered from its image -/
theorem bytesOf_image (w n : Nat) (l : Bytes) (hl : l.length = n) (hw : 8 * n ≤ w) : bytesOf n (image w l) = l := by
  have h := congrArg (List.map fun b : BitVec 8 => UInt8.ofNat b.toNat) (lanes_image w n l hl hw)
  simpa [bytesOf_lanes, Function.comp_def] using h

theorem image_bytesOf {w : Nat} (n : Nat) (hw : w = 8 * n) (x : BitVec w) : image w (bytesOf n x) = x := by
  apply eq_of_lanes 8 n (by decide) (by omega)
  intro i hi
  rw [lane8_image w _ i (by omega), bytesOf_lanes, List.getD_eq_getElem?_getD, List.getElem?_map, List.getElem?_range hi]
  apply BitVec.eq_of_toNat_eq
  have := (lane 8 i x).isLt
  simp only [Option.map_some, Option.getD_some, UInt8.toNat_ofNat', BitVec.toNat_ofNat]
  omega

theorem image_bytesOf_128 (x : BitVec 128) : image 128 (bytesOf 16 x) = x := image_bytesOf 16 rfl x
theorem image_bytesOf_64 (x : BitVec 64) : image 64 (bytesOf 8 x) = x := image_bytesOf 8 rfl x

theorem bytesOf_packLanes (w n : Nat) (l : List (BitVec 8)) (hn : l.length = n) (hw : 8 * n ≤ w) :
    bytesOf n (packLanes 8 w (fun i => l.getD i 0) n) = l.map fun b => UInt8.ofNat b.toNat := by
  rw [bytesOf_lanes]
  apply List.ext_getElem
  · simp [hn]
  · intro i h1 h2
    have hi : i < l.length := by simpa using h2
    simp only [List.getElem_map, List.getElem_range]
    rw [lane_packLanes 8 w _ _ i hw, if_pos (hn ▸ hi), List.getD_eq_getElem?_getD, List.getElem?_eq_getElem hi, Option.getD_some]

/-! ## padding -/

theorem padRight_eq (n : Nat) (l : Bytes) (h : l.length ≤ n) : padRight n l = l ++ zeros (n - l.length) := by
  simp only [padRight, zeros]
  rw [List.take_append, List.take_of_length_le h, List.take_replicate, Nat.min_eq_left (Nat.sub_le _ _)]

theorem length_padRight (n : Nat) (l : Bytes) : (padRight n l).length = n := by
  simp [padRight, zeros]

/-! ## big-endian numbers: the little-endian reading of the reversed string -/

theorem natBE_length (n v : Nat) : (natBE n v).length = n := by simp [natBE]

/-- the big-endian encoding is the little-endian one reversed -/
theorem natBE_eq (n v : Nat) : natBE n v = (bytesOf n (BitVec.ofNat (8 * n) v)).reverse := by
  simp only [natBE, bytesOf, ← List.map_reverse, range_reverse, List.map_map, BitVec.toNat_ofNat]
  apply List.map_congr_left
  intro i hi
  have := List.mem_range.mp hi
  simp only [Function.comp]
  rw [shiftRight_mod_two_pow v _ _ 8 (by omega)]

theorem natBE_beNat (n : Nat) (c : Bytes) (hc : c.length = n) : natBE n (beNat c) = c := by
  rw [natBE_eq, beNat, ← image, bytesOf_image _ n _ (by simp [hc]) (Nat.le_refl _), List.reverse_reverse]

theorem beNat_natBE (n v : Nat) : beNat (natBE n v) = v % 2 ^ (8 * n) := by
  have h := congrArg BitVec.toNat (image_bytesOf n rfl (BitVec.ofNat (8 * n) v))
  have hl := leNat_lt (bytesOf n (BitVec.ofNat (8 * n) v))
  rw [image, BitVec.toNat_ofNat, BitVec.toNat_ofNat, Nat.mod_eq_of_lt (by simpa [bytesOf] using hl)] at h
  rw [natBE_eq, beNat, List.reverse_reverse, h]

theorem beNat_lt (c : Bytes) : beNat c < 2 ^ (8 * c.length) := by
  simpa [beNat] using leNat_lt c.reverse

/-- the usual left-to-right reading of a big-endian number -/
theorem foldl_be (b : Bytes) (acc : Nat) : b.foldl (fun a x => a * 256 + x.toNat) acc = acc * 256 ^ b.length + beNat b := by
  induction b generalizing acc with
  | nil => simp [beNat, leNat]
  | cons x xs ih =>
    simp only [beNat, List.foldl_cons, ih, List.reverse_cons, leNat_append, List.length_reverse, List.length_cons, leNat, Nat.pow_succ,
      Nat.mul_zero, Nat.add_zero]
    rw [Nat.add_mul, Nat.mul_assoc, Nat.mul_comm 256 (256 ^ xs.length), Nat.mul_comm (256 ^ xs.length) x.toNat]
    omega

/-! ## xor -/

theorem xorBytes_length (a k : Bytes) : (xorBytes a k).length = min a.length k.length := List.length_zipWith

theorem xorBytes_append (a b k1 k2 : Bytes) (h : a.length = k1.length) :
    xorBytes (a ++ b) (k1 ++ k2) = xorBytes a k1 ++ xorBytes b k2 :=
  List.zipWith_append h

theorem xorBytes_take_right (a k : Bytes) : xorBytes a k = xorBytes a (k.take a.length) := by
  simp only [xorBytes]
  induction a generalizing k with
  | nil => simp
  | cons x xs ih =>
    cases k with
    | nil => simp
    | cons y ys => simp [ih ys]

end SkinnyVerif
