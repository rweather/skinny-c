/-
Windows of machine words.  The translator writes memory images and row-sliced states as words
assembled from shifted, masked and truncated pieces; a cell (byte, nibble) of such a word is the
window `extractLsb' p m` of it.  The `win` lemmas push a window with literal position through every
word operation whose effect on it is a window again: bitwise operations, shifts by whole cells,
truncation and zero extension, a window of a window, and the lane-structured leaf functions.
A piece of translated code is then compared with its reference cell by cell (`windows`), never
bit by bit.
-/
import SkinnyVerif.Basic.Lanes
import SkinnyVerif.Basic.Attr

namespace SkinnyVerif
open BitVec

variable {w n : Nat}

@[win] theorem win_and (a b : BitVec w) (p m : Nat) :
    extractLsb' p m (a &&& b) = extractLsb' p m a &&& extractLsb' p m b := by
  apply eq_of_getLsbD_eq; intro j hj; simp [hj]

@[win] theorem win_or (a b : BitVec w) (p m : Nat) :
    extractLsb' p m (a ||| b) = extractLsb' p m a ||| extractLsb' p m b := by
  apply eq_of_getLsbD_eq; intro j hj; simp [hj]

@[win] theorem win_xor (a b : BitVec w) (p m : Nat) :
    extractLsb' p m (a ^^^ b) = extractLsb' p m a ^^^ extractLsb' p m b := by
  apply eq_of_getLsbD_eq; intro j hj; simp [hj]

@[win] theorem win_not (a : BitVec w) (p m : Nat) (h : p + m ≤ w) :
    extractLsb' p m (~~~a) = ~~~extractLsb' p m a := by
  apply eq_of_getLsbD_eq; intro j hj
  have : p + j < w := by omega
  simp [hj, this]

/-- a window above a left shift looks below it -/
@[win] theorem win_shl (x : BitVec w) (s p m : Nat) (h : s ≤ p) (h2 : p + m ≤ w) :
    extractLsb' p m (x <<< s) = extractLsb' (p - s) m x := by
  apply eq_of_getLsbD_eq; intro j hj
  have a1 : p + j < w := by omega
  have a2 : ¬ (p + j < s) := by omega
  have a3 : p + j - s = p - s + j := by omega
  have a4 : p - s + j < w := by omega
  simp [hj, a1, a2, a3, getLsbD_eq_getElem a4]

@[win] theorem win_shl_zero (x : BitVec w) (s p m : Nat) (h : p + m ≤ s) :
    extractLsb' p m (x <<< s) = 0#m := by
  apply eq_of_getLsbD_eq; intro j hj
  have : p + j < s := by omega
  simp [hj, this]

@[win] theorem win_shr (x : BitVec w) (s p m : Nat) :
    extractLsb' p m (x >>> s) = extractLsb' (s + p) m x := by
  apply eq_of_getLsbD_eq; intro j hj
  simp [hj, Nat.add_assoc]

/-- the low cells of a left shift depend on the low cells only (sub-cell shifts: constants, carries) -/
@[win] theorem win_shl_low (x : BitVec w) (s m : Nat) (h : m ≤ w) :
    extractLsb' 0 m (x <<< s) = extractLsb' 0 m x <<< s := by
  apply eq_of_getLsbD_eq; intro j hj
  have : j < w := by omega
  have : j - s < w := by omega
  simp [*, getLsbD_eq_getElem]

@[win] theorem win_setWidth (x : BitVec n) (p m : Nat) (h : p + m ≤ w ∨ n ≤ w) :
    extractLsb' p m (x.setWidth w) = extractLsb' p m x := by
  apply eq_of_getLsbD_eq; intro j hj
  by_cases h1 : p + j < w
  · simp [hj, h1]
  · have : n ≤ p + j := by omega
    simp [hj, h1, getLsbD_of_ge x _ this]

@[win] theorem win_self (x : BitVec n) : extractLsb' 0 n x = x := extractLsb'_eq_self

/-- a window as wide as the word is a right shift -/
@[win] theorem win_shr_self (x : BitVec n) (p : Nat) (_ : 0 < p ∧ p < n) : extractLsb' p n x = x >>> p := by
  apply eq_of_getLsbD_eq; intro j hj; simp [hj]

/-- a truncation is a window -/
@[win] theorem win_trunc (x : BitVec n) (m : Nat) (h : m ≤ n) : x.setWidth m = extractLsb' 0 m x :=
  setWidth_eq_extractLsb' h

@[win] theorem win_win (a k b m : Nat) (x : BitVec w) (h : a + k ≤ m) :
    extractLsb' a k (extractLsb' b m x) = extractLsb' (b + a) k x := by
  apply eq_of_getLsbD_eq; intro j hj
  have : a + j < m := by omega
  simp [hj, this, Nat.add_assoc]

/-- a window beyond the word is empty -/
@[win] theorem win_oob (x : BitVec n) (p m : Nat) (h : n ≤ p) : extractLsb' p m x = 0#m := by
  apply eq_of_getLsbD_eq; intro j hj
  have : n ≤ p + j := by omega
  simp [hj, getLsbD_of_ge x _ this]

/-- an empty window, whatever it is taken of (a layout formula gives one at the first and the last column) -/
@[win ↓] theorem win_empty (x : BitVec n) (p : Nat) : extractLsb' p 0 x = 0#0 := Subsingleton.elim _ _

/-- two words that agree on a window of whole cells agree on every cell inside it -/
theorem lane_congr_of_win {x y : BitVec w} {k s m : Nat} (h : extractLsb' (k * s) (k * m) x = extractLsb' (k * s) (k * m) y)
    (q : Nat) (h1 : s ≤ q) (h2 : q < s + m) : lane k q x = lane k q y := by
  have e : ∀ z : BitVec w, lane k q z = extractLsb' (k * (q - s)) k (extractLsb' (k * s) (k * m) z) := by
    intro z
    have hin : k * (q - s + 1) ≤ k * m := Nat.mul_le_mul_left k (by omega)
    rw [win_win _ _ _ _ _ (by rwa [Nat.mul_add, Nat.mul_one] at hin), ← Nat.mul_add, Nat.add_sub_cancel' h1, lane]
  rw [e, e, h]

/-- `eq_of_lanes` with all lanes in one goal: `windows [List.range, List.range.loop, List.map]` then unfolds the two words
and normalises what the lanes share once, where `nat_cases i n <;> windows` does it `n` times -/
theorem eq_of_lanes_map (k n : Nat) (hk : 0 < k) (hw : w ≤ k * n) (a b : BitVec w)
    (h : (List.range n).map (fun i => lane k i a) = (List.range n).map (fun i => lane k i b)) : a = b :=
  eq_of_lanes k n hk hw a b fun i hi => List.map_inj_left.mp h i (List.mem_range.mpr hi)

/-- masks that keep a whole cell -/
@[win] theorem and_255 (x : BitVec 8) : x &&& 255#8 = x := BitVec.and_allOnes
@[win] theorem and_15 (x : BitVec 4) : x &&& 15#4 = x := BitVec.and_allOnes

/-- window form of a lane lemma: a window that is a lane of a lane-wise function -/
theorem win_of_lanes (k n : Nat) (F : BitVec w → BitVec w) (g : BitVec k → BitVec k)
    (h : ∀ x i, i < n → lane k i (F x) = g (lane k i x)) (x : BitVec w) (p : Nat) (hp : p % k = 0) (hpn : p + k ≤ k * n) :
    extractLsb' p k (F x) = g (extractLsb' p k x) := by
  rcases Nat.eq_zero_or_pos k with rfl | hk
  · exact Subsingleton.elim _ _
  have hi : p / k < n := Nat.div_lt_of_lt_mul (by omega)
  have := h x (p / k) hi
  rwa [lane, lane, Nat.mul_div_cancel' (Nat.dvd_of_mod_eq_zero hp)] at this

/-! Windows wider than the segments of an image (a block of a batch, a word of a block).  Not in the
`win` set: `win_ext` would undo `win_setWidth` on a zero extension, and the joins rewrite the operand of a
window, not a window; they are passed to `windows` where a proof wants them. -/

/-- a window that has taken in a whole segment is its zero extension (`_h` only orients the rule against `win_trunc`) -/
theorem win_ext (x : BitVec n) (m : Nat) (_h : n < m) : extractLsb' 0 m x = x.setWidth m := by
  apply eq_of_getLsbD_eq; intro j hj; simp [hj]

/-- for a word read byte by byte, `b0 | b1 << 8 | …` (`READ_WORD`): two adjacent windows, the upper one shifted into
place above the lower, are one window (`q'` is a variable of its own because positions are literals) -/
theorem win_join (x : BitVec w) (q q' a b m : Nat) (hq : q' = q + a) :
    setWidth m (extractLsb' q a x) ||| (setWidth m (extractLsb' q' b x) <<< a) = setWidth m (extractLsb' q (a + b) x) := by
  subst hq
  apply eq_of_getLsbD_eq; intro j hj
  by_cases h1 : j < a
  · have : j < a + b := by omega
    simp [hj, h1, this]
  · by_cases h2 : j < a + b
    · have : j - a < b := by omega
      have e : q + a + (j - a) = q + j := by omega
      simp [hj, h1, h2, this, e]
    · have : ¬ j - a < b := by omega
      simp [hj, h1, h2, this]

/-- for a word written byte by byte into an image (`WRITE_WORD`): the same further up an or-chain of shifted segments -/
theorem win_join_shl (c : BitVec n) (x : BitVec w) (q q' a b s s' : Nat) (hq : q' = q + a) (hs : s' = s + a) :
    c ||| (setWidth n (extractLsb' q a x) <<< s) ||| (setWidth n (extractLsb' q' b x) <<< s') =
      c ||| (setWidth n (extractLsb' q (a + b) x) <<< s) := by
  subst hq hs
  rw [BitVec.or_assoc]; congr 1
  apply eq_of_getLsbD_eq; intro j hj
  by_cases h0 : j < s
  · have : j < s + a := by omega
    simp [hj, h0, this]
  · by_cases h1 : j < s + a
    · have a1 : j - s < a := by omega
      have a2 : j - s < a + b := by omega
      simp [hj, h0, h1, a1, a2]
    · have a1 : ¬ j - s < a := by omega
      have e : q + a + (j - (s + a)) = q + (j - s) := by omega
      by_cases h2 : j < s + a + b
      · have a2 : j - s < a + b := by omega
        have a3 : j - (s + a) < b := by omega
        simp [hj, h0, h1, a1, a2, a3, e]
      · have a2 : ¬ j - s < a + b := by omega
        have a3 : ¬ j - (s + a) < b := by omega
        simp [hj, h0, h1, a1, a2, a3]

/-- compute windows with literal positions (the side conditions are closed arithmetic); `windows [h, …]`
also rewrites with `h, …` -/
syntax "windows" (" [" Lean.Parser.Tactic.simpLemma,* "]")? : tactic
macro_rules
  | `(tactic| windows) => `(tactic| windows [])
  | `(tactic| windows [$ls,*]) => `(tactic|
    simp only [win, gen_unfold, lane, BitVec.reduceExtractLsb', BitVec.ofNat_eq_ofNat, BitVec.natCast_eq_ofNat,
      BitVec.or_zero, BitVec.zero_or, BitVec.xor_zero, BitVec.zero_xor, BitVec.and_zero, BitVec.zero_and, BitVec.and_assoc,
      BitVec.reduceAnd,
      Nat.reduceMul, Nat.reduceAdd, Nat.reduceSub, Nat.reduceMod, Nat.reduceLeDiff, Nat.reduceLT, Nat.reduceEqDiff,
      true_or, or_true, _root_.and_self, $ls,*])

/-- Two words are equal if their `n` lanes of `k` bits are, all lanes in one goal: one `windows` call
(also rewriting with `h, …`) unfolds the two words and normalises what the lanes share once; what is
left is compared lane by lane up to the order of the operands. -/
syntax "lanewise " num num (" [" Lean.Parser.Tactic.simpLemma,* "]")? : tactic
macro_rules
  | `(tactic| lanewise $k $n) => `(tactic| lanewise $k $n [])
  | `(tactic| lanewise $k $n [$ls,*]) => `(tactic|
    (apply eq_of_lanes_map $k $n (by decide) (by decide)
     windows [List.range, List.range.loop, List.map, List.cons.injEq, and_true, true_and, $ls,*] <;> and_intros <;> ac_rfl))

end SkinnyVerif
