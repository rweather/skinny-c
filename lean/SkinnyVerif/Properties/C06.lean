/-
C05 (final form) and C06 (CTR part).

* `C05_stream`: after `set_counter` (any counter length 0..bs, or NULL), any sequence of `encrypt`
  calls returns, call by call, the CTR transformation of the concatenated input under the
  specification's counter arithmetic -- for the generic back end (`B = 1`) and the vector back
  ends (`B` lanes, lazy lane increments), for any block function `E` with `bs`-byte output.
* `C05_init`: a freshly initialised context is in the state `set_counter(NULL, 0)` produces.
* `C05_involution`: applying the same stream twice restores the data.
* `C06_ctr`: for every sequence of counter sets, data calls and key/tweak changes (which may
  come in the middle of a stream), the generic and the vector back end return identical outputs.
-/
import SkinnyVerif.Properties.C05
import SkinnyVerif.Lemmas.Counter

namespace SkinnyVerif.Lemmas
open SkinnyVerif SkinnyVerif.Gen SkinnyVerif.Impl SkinnyVerif.Properties

theorem incSpec16 : IncSpec 16 := fun k hk => incCounter_natBE 16 (.inl rfl) k (by omega)

theorem incSpec8 : IncSpec 8 := fun k hk => incCounter_natBE 8 (.inr rfl) k (by omega)

end SkinnyVerif.Lemmas

namespace SkinnyVerif.Properties
open SkinnyVerif SkinnyVerif.Impl SkinnyVerif.Lemmas SkinnyVerif.Spec.Modes

section
variable (E : Bytes → Bytes) (bs B : Nat) (lazy : Bool)
variable (hbs : 0 < bs) (hB : 0 < B) (hB8 : B ≤ 8) (hE : ∀ x, (E x).length = bs) (hspec : IncSpec bs)
include hbs hB hB8 hE hspec

/-- C05: the whole stream after a counter set, however it is cut into calls -/
theorem C05_stream (st0 : CtrState) (counter : Option Bytes) (size : Nat) (hs : size ≤ bs) (calls : List Bytes) :
    let run := calls.foldl (fun (acc : CtrState × List Bytes) data =>
        let r := ctrEncrypt E bs B lazy acc.1 data; (r.1, acc.2 ++ [r.2])) (st0.setCounter bs B counter size, [])
    run.2.flatten = Spec.Modes.ctr E bs (counterOf bs (counter.map (·.take size))) 0 calls.flatten ∧
    List.map List.length run.2 = List.map List.length calls := by
  have := C05_calls E bs B lazy hbs hB hB8 hE hspec (counterBlock bs counter size) calls _ 0
    (setCounter_inv bs B lazy hbs hB hB8 hspec E st0 counter size hs)
  rw [counterBlock_eq_spec] at this
  exact ⟨this.1, this.2.1⟩

omit hE in
/-- C05: a freshly initialised context (all-zero counter; the vector `init`s stagger their lanes
through `set_counter(NULL, 0)`) is at position 0 of the stream that starts at the zero counter -/
theorem C05_init (E' : Bytes → Bytes) :
    CInv E' bs B lazy (ctrBlock bs (zeros bs)) 0 0 ((CtrState.init bs B).setCounter bs B none 0) :=
  setCounter_inv bs B lazy hbs hB hB8 hspec E' (CtrState.init bs B) none 0 (Nat.zero_le _)

end

/-- C05: the CTR transformation at a fixed stream position is an involution -/
theorem C05_involution (E : Bytes → Bytes) (bs : Nat) (c : Bytes) (off : Nat) (data : Bytes) :
    Spec.Modes.ctr E bs c off (Spec.Modes.ctr E bs c off data) = data := by
  simp only [Spec.Modes.ctr, xorBytes, List.length_zipWith, keystream, List.length_map, List.length_range, Nat.min_self]
  apply List.ext_getElem
  · simp
  · intro i h1 h2
    simp only [List.getElem_zipWith]
    rw [UInt8.xor_assoc, UInt8.xor_self, UInt8.xor_zero]

/-! ## C06: the back ends are observationally identical -/

/-- operations on a keyed CTR context (after argument validation) -/
inductive CtrOp
  | setCounter (counter : Option Bytes) (size : Nat)
  | encrypt (data : Bytes)
  | rekey (E' : Bytes → Bytes)      -- set_key / set_tweaked_key / set_tweak: a new block function, keystream reset

/-- a context of one back end: the current block function and the counter state -/
structure Ctx where
  E : Bytes → Bytes
  st : CtrState

def stepCtx (bs B : Nat) (lazy : Bool) (c : Ctx) : CtrOp → Ctx × Option Bytes
  | .setCounter counter size => ({ c with st := c.st.setCounter bs B counter size }, none)
  | .encrypt data => let r := ctrEncrypt c.E bs B lazy c.st data; ({ c with st := r.1 }, some r.2)
  | .rekey E' => ({ E := E', st := c.st.reset bs B lazy }, none)

def runCtx (bs B : Nat) (lazy : Bool) (c : Ctx) (ops : List CtrOp) : List (Option Bytes) :=
  (ops.foldl (fun (acc : Ctx × List (Option Bytes)) op => let r := stepCtx bs B lazy acc.1 op; (r.1, acc.2 ++ [r.2])) (c, [])).2

/-- valid counter lengths and block functions with `bs`-byte output -/
def opOK (bs : Nat) : CtrOp → Prop
  | .setCounter _ size => size ≤ bs
  | .encrypt _ => True
  | .rekey E' => ∀ x, (E' x).length = bs

/-- simulation relation between a generic context and a vector context -/
def Sim (bs B : Nat) (g v : Ctx) : Prop :=
  g.E = v.E ∧ (∀ x, (g.E x).length = bs) ∧
  ∃ c b0 n, CInv g.E bs 1 false (ctrBlock bs c) b0 n g.st ∧ CInv v.E bs B true (ctrBlock bs c) b0 n v.st

theorem C06_step (bs B : Nat) (hbs : 0 < bs) (hB : 0 < B) (hB8 : B ≤ 8) (hspec : IncSpec bs)
    (g v : Ctx) (hsim : Sim bs B g v) (op : CtrOp) (hop : opOK bs op) :
    (stepCtx bs 1 false g op).2 = (stepCtx bs B true v op).2 ∧ Sim bs B (stepCtx bs 1 false g op).1 (stepCtx bs B true v op).1 := by
  obtain ⟨hEeq, hElen, c, b0, n, hg, hv⟩ := hsim
  cases op with
  | setCounter counter size =>
    exact ⟨rfl, hEeq, hElen, counterBlock bs counter size, 0, 0,
      setCounter_inv bs 1 false hbs (by decide) (by decide) hspec g.E g.st counter size hop,
      setCounter_inv bs B true hbs hB hB8 hspec v.E v.st counter size hop⟩
  | encrypt data =>
    obtain ⟨og, ig⟩ := ctrEncrypt_inv g.E bs 1 false hbs (by decide) (by decide) hElen hspec c b0 n g.st data hg
    obtain ⟨ov, iv⟩ := ctrEncrypt_inv v.E bs B true hbs hB hB8 (hEeq ▸ hElen) hspec c b0 n v.st data hv
    exact ⟨by show some _ = some _; rw [og, ov, hEeq], hEeq, hElen, c, b0, n + data.length, ig, iv⟩
  | rekey E' =>
    refine ⟨rfl, rfl, hop, c, b0 + (n + bs - 1) / bs, 0, ?_, ?_⟩
    · exact reset_inv g.E bs 1 false (ctrBlock bs c) hbs (by decide) E' b0 n g.st (fun _ => rfl) hg
    · exact reset_inv v.E bs B true (ctrBlock bs c) hbs hB E' b0 n v.st (fun h => by cases h) hv

/-- C06 (CTR): identical outputs for every sequence of operations -/
theorem C06_ctr (bs B : Nat) (hbs : 0 < bs) (hB : 0 < B) (hB8 : B ≤ 8) (hspec : IncSpec bs)
    (ops : List CtrOp) (hops : ∀ op ∈ ops, opOK bs op) (g v : Ctx) (hsim : Sim bs B g v) :
    runCtx bs 1 false g ops = runCtx bs B true v ops := by
  unfold runCtx
  induction ops generalizing g v with
  | nil => rfl
  | cons op rest ih =>
    obtain ⟨ho, hs⟩ := C06_step bs B hbs hB hB8 hspec g v hsim op (hops op (by simp))
    simp only [List.foldl_cons]
    rw [foldl_outs (stepCtx bs 1 false), foldl_outs (stepCtx bs B true), ho, ih (fun o h => hops o (by simp [h])) _ _ hs]

/-- fresh contexts of the two back ends are related (init = zeroed context + `set_counter(NULL, 0)`) -/
theorem C06_init (bs B : Nat) (hbs : 0 < bs) (hB : 0 < B) (hB8 : B ≤ 8) (hspec : IncSpec bs) (E : Bytes → Bytes)
    (hE : ∀ x, (E x).length = bs) :
    Sim bs B ⟨E, (CtrState.init bs 1).setCounter bs 1 none 0⟩ ⟨E, (CtrState.init bs B).setCounter bs B none 0⟩ :=
  ⟨rfl, hE, zeros bs, 0, 0, C05_init bs 1 false hbs (by decide) (by decide) hspec E, C05_init bs B true hbs hB hB8 hspec E⟩

/-- the instances for the library's block sizes -/
theorem C05_C06_instances : IncSpec 16 ∧ IncSpec 8 := ⟨incSpec16, incSpec8⟩

end SkinnyVerif.Properties
