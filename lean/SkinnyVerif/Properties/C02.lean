/-
C02: MANTIS-5..8 block processing conforms to the specification, for every key, tweak and block,
in every word-size / endianness configuration: a schedule keyed for encryption computes
`Spec.Mantis.encrypt`, one keyed for decryption computes `Spec.Mantis.decrypt`; the tweak may come
from the schedule (`mantis_set_tweak`, NULL = zero) or with the call; a fresh schedule uses the
zero tweak.  Proved once for an arbitrary table of pieces that meets `MantisPiecesOK`, `MantisKeysOK`
and holds the round constants (`C02_mantis_ops`); the C library's four tables do (`Lemmas/MantisPieces.lean`).
-/
import SkinnyVerif.Lemmas.MantisRefine
import SkinnyVerif.Lemmas.MantisPieces
import SkinnyVerif.Lemmas.GuardLemmas
import SkinnyVerif.Lemmas.SpecInverse

namespace SkinnyVerif.Properties
open SkinnyVerif SkinnyVerif.Gen SkinnyVerif.Impl SkinnyVerif.Lemmas SkinnyVerif.Spec.Skinny SkinnyVerif.Spec.Mantis

theorem mantisPieces (t : Tag) : MantisPiecesOK (opsMantis t) := srcM_pieces (.c t)
theorem mantisKeys (t : Tag) : MantisKeysOK (opsMantis t) := srcM_keys (.c t)

theorem image64_zeros : image 64 (zeros 8) = 0 := by decide

/-- the specification's `mode`: 1 = `MANTIS_ENCRYPT`, anything else = decrypt -/
def specCrypt (mode : Int) (r : Nat) (key tweak blk : Bytes) : Bytes :=
  if mode = 1 then Spec.Mantis.encrypt r key tweak blk else Spec.Mantis.decrypt r key tweak blk

/-- C02 for any table of pieces -/
theorem C02_mantis_ops (o : MantisOps) (P : MantisPiecesOK o) (K : MantisKeysOK o)
    (RC : ∀ i, i < 8 → cells4 (o.rc.getD i 0) = rcCells i) (ks0 : MantisKey) (key tweak blk : Bytes) (hk : key.length = 16)
    (rounds : Nat) (hr : 5 ≤ rounds ∧ rounds ≤ 8) (mode : Int) :
    let r := mantisSetKey o ks0 (some key) 16 rounds mode
    r.1 = 1 ∧
    mantisCrypt o r.2 blk = specCrypt mode rounds key (zeros 8) blk ∧
    mantisCryptTweaked o r.2 tweak blk = specCrypt mode rounds key tweak blk ∧
    (mantisSetTweak o r.2 (some tweak) 8).1 = 1 ∧
    mantisCrypt o (mantisSetTweak o r.2 (some tweak) 8).2 blk = specCrypt mode rounds key tweak blk ∧
    mantisCrypt o (mantisSetTweak o r.2 none 8).2 blk = specCrypt mode rounds key (zeros 8) blk := by
  intro r
  have hg : mantisSetKeyGuard false (some key).isNone 16 rounds mode = false := by
    rw [guardMantis_setKey _ _ _ _ (by decide) (by omega)]
    simp; omega
  have hgt : ∀ tw : Option Bytes, mantisSetTweakGuard false tw.isNone 8 = false := by
    intro tw; rw [guardMantis_setTweak _ _ (by decide)]; simp
  -- the schedule after `mantis_set_key`: rounds, key material, tweak
  have hr2 : r.2.rounds = rounds := by
    simp only [r, mantisSetKey, hg, Bool.false_eq_true, if_false]
  have hkeys : keysOf r.2 = if mode = 1 then encKeys key else decKeys key := by
    simp only [r, mantisSetKey, hg, Bool.false_eq_true, if_false]
    split
    · exact (keysOf_setKey o K key hk rounds).1
    · exact (keysOf_setKey o K key hk rounds).2
  have htw0 : r.2.tweak = 0 := by
    simp only [r, mantisSetKey, hg, Bool.false_eq_true, if_false]
    split
    · exact K.enc_tw _
    · exact K.dec_tw _
  -- a call under a schedule that differs from it in the tweak only
  have crypt_tw : ∀ tw : BitVec 64, ∀ twb : Bytes, tw = image 64 twb →
      mantisCrypt o { r.2 with tweak := tw } blk = specCrypt mode rounds key twb blk := by
    intro tw twb htw
    rw [mantisCrypt_spec o P RC _ (by simp only; omega) blk]
    simp only [keysOf] at hkeys ⊢
    rw [hr2, hkeys, htw, ← cellsOfBytes4_eq, ← cellsOfBytes4_eq]
    simp only [specCrypt, Spec.Mantis.encrypt, Spec.Mantis.decrypt]; split <;> rfl
  have hz : (0 : BitVec 64) = image 64 (zeros 8) := image64_zeros.symm
  refine ⟨?_, ?_, ?_, ?_, ?_, ?_⟩
  · simp only [r, mantisSetKey, hg, Bool.false_eq_true, if_false]
  · rw [← crypt_tw 0 (zeros 8) hz, ← htw0]
  · rw [mantisCryptTweaked_spec o P RC r.2 (by omega) tweak blk, hr2, hkeys, ← cellsOfBytes4_eq, ← cellsOfBytes4_eq]
    simp only [specCrypt, Spec.Mantis.encrypt, Spec.Mantis.decrypt]; split <;> rfl
  · simp only [mantisSetTweak, hgt, Bool.false_eq_true, if_false]
  · rw [← crypt_tw (image 64 tweak) tweak rfl]
    simp only [mantisSetTweak, hgt, Bool.false_eq_true, if_false]
    rw [K.unpack0, image_window64 128 _ 0 (by decide), List.drop_zero, image_take 64 tweak 8 (by decide)]
  · rw [← crypt_tw 0 (zeros 8) hz]
    simp only [mantisSetTweak, hgt, Bool.false_eq_true, if_false]

/-- **C02** -/
theorem C02_mantis (t : Tag) (ks0 : MantisKey) (key tweak blk : Bytes) (hk : key.length = 16) (rounds : Nat)
    (hr : 5 ≤ rounds ∧ rounds ≤ 8) (mode : Int) :
    let o := opsMantis t
    let r := mantisSetKey o ks0 (some key) 16 rounds mode
    r.1 = 1 ∧
    -- a freshly keyed schedule uses the all-zero tweak
    mantisCrypt o r.2 blk = specCrypt mode rounds key (zeros 8) blk ∧
    -- the tweak supplied with the call
    mantisCryptTweaked o r.2 tweak blk = specCrypt mode rounds key tweak blk ∧
    -- the tweak supplied through the schedule
    (mantisSetTweak o r.2 (some tweak) 8).1 = 1 ∧
    mantisCrypt o (mantisSetTweak o r.2 (some tweak) 8).2 blk = specCrypt mode rounds key tweak blk ∧
    -- a NULL tweak is the zero tweak
    mantisCrypt o (mantisSetTweak o r.2 none 8).2 blk = specCrypt mode rounds key (zeros 8) blk :=
  C02_mantis_ops (opsMantis t) (mantisPieces t) (mantisKeys t) (srcM_rc (.c t)) ks0 key tweak blk hk rounds hr mode


/-! ## mode switching (used by C03) -/

/-- the key material of the opposite direction -/
def flipKeys (k : Keys) : Keys := { k0 := k.k0', k0' := k.k0, k1 := xorCells k.k1 (cellsOfWord alpha) }

theorem flipKeys_flipKeys (k : Keys) : flipKeys (flipKeys k) = k := by
  cases k; simp [flipKeys, xorCells_cancel]

theorem decKeys_eq_flip (key : Bytes) : decKeys key = flipKeys (encKeys key) := rfl
theorem encKeys_eq_flip (key : Bytes) : encKeys key = flipKeys (decKeys key) := by
  rw [decKeys_eq_flip, flipKeys_flipKeys]

/-- `mantis_swap_modes` over any table: the key material becomes that of the opposite direction; tweak and
round count are kept -/
theorem swapModes_keys (o : MantisOps) (K : MantisKeysOK o) (ks : MantisKey) :
    keysOf (mantisSwapModes o ks) = flipKeys (keysOf ks) ∧
    (mantisSwapModes o ks).tweak = ks.tweak ∧ (mantisSwapModes o ks).rounds = ks.rounds := by
  simp only [mantisSwapModes, keysOf, flipKeys, K.swap_k0, K.swap_k0p, K.swap_k1, K.swap_tw, cells4_xor, alphaImg_cells, and_self]

theorem swap_enc_is_dec (o : MantisOps) (K : MantisKeysOK o) (ks : MantisKey) (key : Bytes) (h : keysOf ks = encKeys key) :
    keysOf (mantisSwapModes o ks) = decKeys key := by
  rw [(swapModes_keys o K ks).1, h, decKeys_eq_flip]

theorem swap_dec_is_enc (o : MantisOps) (K : MantisKeysOK o) (ks : MantisKey) (key : Bytes) (h : keysOf ks = decKeys key) :
    keysOf (mantisSwapModes o ks) = encKeys key := by
  rw [(swapModes_keys o K ks).1, h, encKeys_eq_flip]

/-- `mantis_swap_modes` turns the key material of an encryption schedule into that of the
decryption schedule and back; tweak and round count are kept -/
theorem C02_swap_modes (t : Tag) (ks : MantisKey) :
    let s := mantisSwapModes (opsMantis t) ks
    keysOf s = { k0 := (keysOf ks).k0', k0' := (keysOf ks).k0, k1 := xorCells (keysOf ks).k1 (cellsOfWord alpha) } ∧
    s.tweak = ks.tweak ∧ s.rounds = ks.rounds :=
  swapModes_keys (opsMantis t) (mantisKeys t) ks

theorem C02_swap_enc_is_dec (t : Tag) (ks : MantisKey) (key : Bytes) (h : keysOf ks = encKeys key) :
    keysOf (mantisSwapModes (opsMantis t) ks) = decKeys key :=
  swap_enc_is_dec _ (mantisKeys t) ks key h

theorem C02_swap_dec_is_enc (t : Tag) (ks : MantisKey) (key : Bytes) (h : keysOf ks = decKeys key) :
    keysOf (mantisSwapModes (opsMantis t) ks) = encKeys key :=
  swap_dec_is_enc _ (mantisKeys t) ks key h

/-- block processing depends on the schedule only through its key material, tweak and rounds -/
theorem C02_crypt_of_keys (t : Tag) (ks : MantisKey) (hr : ks.rounds ≤ 8) (blk : Bytes) :
    mantisCrypt (opsMantis t) ks blk =
      bytesOfCells4 (crypt ks.rounds (keysOf ks) (cells4 ks.tweak) (cellsOfBytes4 blk)) := by
  rw [mantisCrypt_spec _ (mantisPieces t) (srcM_rc (.c t)) ks hr blk, cellsOfBytes4_eq]

end SkinnyVerif.Properties
