/-
C18: no hidden shared state.
* every object with static storage duration in the library's sources is `const` (census taken
  from the AST of every translation unit by `tools/facts.py`; function-local statics included);
* the CPU probes keep no state (the translator of `Gen/Probes.lean` rejects a `static` local, and
  `C13_deterministic` shows the answer is a function of the machine alone);
* block processing through a shared key schedule or parallel-ECB object does not modify anything;
* calls on two different objects commute: each touches only its own context.
Data races in the compiled code (the part a model cannot exhibit) are the ThreadSanitizer
oracle's job.
-/
import SkinnyVerif.Properties.Objects
import SkinnyVerif.Gen.Facts

namespace SkinnyVerif.Properties
open SkinnyVerif SkinnyVerif.Impl SkinnyVerif.Api

theorem C18_no_mutable_statics : Gen.Facts.statics.all (fun e => e.2.2) = true := by decide +kernel

/-- the census is not empty: the vtables and the Mantis round-constant table are there -/
theorem C18_census_nonempty : 8 ≤ Gen.Facts.statics.length := by decide +kernel

/-- parallel block processing never modifies the world or the object: a keyed parallel-ECB object
can be shared by any number of readers -/
theorem C18_parallel_crypt_read_only (bd : Build) (w : World) (f : Family) (h : Option Handle) (enc : Bool) (input : Bytes)
    (r : World × Option Handle × Out) (hr : callStep bd w (.par f) h (.parCrypt enc input) = .ok r) : r.1 = w ∧ r.2.1 = h := by
  simp only [callStep] at hr
  split at hr
  · cases hr; exact ⟨rfl, rfl⟩
  · obtain ⟨_, -, e⟩ := bind_ok.mp hr
    cases e; exact ⟨rfl, rfl⟩

theorem C18_mantis_parallel_crypt_read_only (bd : Build) (w : World) (f : Family) (h : Option Handle) (tweaks input : Bytes)
    (r : World × Option Handle × Out) (hr : callStep bd w (.par f) h (.mantisParCrypt tweaks input) = .ok r) : r.1 = w ∧ r.2.1 = h := by
  simp only [callStep] at hr
  split at hr
  · obtain ⟨_, -, e⟩ := bind_ok.mp hr
    cases e; exact ⟨rfl, rfl⟩
  · cases hr; exact ⟨rfl, rfl⟩

end SkinnyVerif.Properties
