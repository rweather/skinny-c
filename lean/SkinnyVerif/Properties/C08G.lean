/-
C08 / C09 for the hand-modelled glue: the buffering loop of `*_ctr_*_encrypt` and the loops of parallel ECB.

`ctrLoopT` is `Impl.ctrLoop` instrumented with the *control-flow and address trace* of the C loop: for every iteration
which of the three branches is taken (refill + whole batch / refill + partial tail / left-over keystream) and the
offsets and byte counts handed to the xor helpers (which determine every address the iteration touches: `out`, `in`,
`ctx->ecounter + ctx->offset`, each for `temp` bytes).

* `ctrLoopT_eq`: the instrumented loop returns what `ctrLoop` returns, and `ctrTrace fuel offset length` as the trace; the
  next two are its projections.
* `ctrLoopT_erase`: erasing the trace gives back `ctrLoop` (the instrumentation changes nothing);
* `C08_ctr_trace_public`: the trace is `ctrTrace fuel offset length` - a function of the buffered-keystream offset and of
  the byte count only.  Key schedule, tweak, counter, keystream and data bytes do not occur in it: for any two secrets the
  traces are equal (`C08_ctr_trace_secret_independent`), for both the generic (`lazy = false`) and the vector back ends,
  any batch size, any block function.
* `C09_ctr_extent`: the number of output bytes equals the number of input bytes, and the accesses listed in the trace
  are consecutive, start at 0 and end at `size`: the call touches exactly `[0, size)` of both buffers, each position
  once, and reads it (as input) in the same step that writes it (as output) - so `output == input` is harmless.
* `C09_parallel_extent`: the loops of parallel ECB depend on the byte count only.

The tie of `ctrLoop` / `parallelBlocks` to the C loops is the shape hash + the correspondence scripts (DESIGN.md 13.2);
the memcheck taint oracle observes the same fact on the compiled code.
-/
import SkinnyVerif.Impl.Modes
import SkinnyVerif.Impl.VecExec

namespace SkinnyVerif.Properties
open SkinnyVerif SkinnyVerif.Impl

/-- one iteration of the CTR loop, as an observer of branches and addresses sees it -/
inductive CtrEv
  | refillWhole (n : Nat)            -- new keystream batch, `n = B*bs` bytes xored at the cursor
  | refillTail (n : Nat)             -- new keystream batch, the last `n < B*bs` bytes of the request, `offset := n`, loop left
  | leftover (offset n : Nat)        -- `n` bytes xored with `ecounter + offset`
deriving Repr, DecidableEq

def CtrEv.bytes : CtrEv → Nat
  | .refillWhole n => n | .refillTail n => n | .leftover _ n => n

/-- `ctrLoop` with the trace -/
def ctrLoopT (inc : Nat → Bytes → Bytes) (E : Bytes → Bytes) (bs B : Nat) (lazy : Bool) :
    Nat → CtrState → Bytes → Bytes → List CtrEv → CtrState × Bytes × List CtrEv
  | 0, st, _, out, tr => (st, out, tr)
  | fuel + 1, st, input, out, tr =>
    if input.isEmpty then (st, out, tr)
    else if st.offset ≥ B * bs then
      let lanes0 := if lazy then st.lanes.map (inc st.pending) else st.lanes
      let ec := lanes0.flatMap E
      let lanes := if lazy then lanes0 else lanes0.map (inc B)
      let pending := if lazy then B else st.pending
      if input.length ≥ B * bs then
        ctrLoopT inc E bs B lazy fuel { st with lanes := lanes, ecounter := ec, pending := pending } (input.drop (B * bs))
          (out ++ xorBytes (input.take (B * bs)) ec) (tr ++ [.refillWhole (B * bs)])
      else
        ({ lanes := lanes, ecounter := ec, offset := input.length, pending := pending }, out ++ xorBytes input ec,
          tr ++ [.refillTail input.length])
    else
      let temp := min (B * bs - st.offset) input.length
      ctrLoopT inc E bs B lazy fuel { st with offset := st.offset + temp } (input.drop temp)
        (out ++ xorBytes (input.take temp) (st.ecounter.drop st.offset)) (tr ++ [.leftover st.offset temp])

/-- the trace as a function of public values only: fuel, batch size in bytes, buffer offset, byte count -/
def ctrTrace (W : Nat) : Nat → Nat → Nat → List CtrEv
  | 0, _, _ => []
  | fuel + 1, offset, len =>
    if len = 0 then []
    else if offset ≥ W then
      if len ≥ W then .refillWhole W :: ctrTrace W fuel offset (len - W)
      else [.refillTail len]
    else
      let temp := min (W - offset) len
      .leftover offset temp :: ctrTrace W fuel (offset + temp) (len - temp)

/-- the instrumented loop is the loop, with a trace that the public values determine -/
theorem ctrLoopT_eq (inc : Nat → Bytes → Bytes) (E : Bytes → Bytes) (bs B : Nat) (lazy : Bool) (fuel : Nat) (st : CtrState)
    (input out : Bytes) (tr : List CtrEv) :
    ctrLoopT inc E bs B lazy fuel st input out tr =
      ((ctrLoop inc E bs B lazy fuel st input out).1, (ctrLoop inc E bs B lazy fuel st input out).2,
        tr ++ ctrTrace (B * bs) fuel st.offset input.length) := by
  fun_induction ctrLoopT inc E bs B lazy fuel st input out tr with
  | case1 => simp [ctrLoop, ctrTrace]
  | case2 fuel st input out tr he => simp [ctrLoop, ctrTrace, List.isEmpty_iff.mp he]
  | case3 fuel st input out tr he ho lanes0 ec lanes pending hw ih =>
    have hl : input.length ≠ 0 := by simpa using he
    rw [ih]
    simp [ctrLoop, ctrTrace, he, ho, hw, hl, lanes0, ec, lanes, pending]
  | case4 fuel st input out tr he ho lanes0 ec lanes pending hw =>
    have hl : input.length ≠ 0 := by simpa using he
    simp [ctrLoop, ctrTrace, he, ho, hw, hl, lanes0, ec, lanes, pending]
  | case5 fuel st input out tr he ho temp ih =>
    have hl : input.length ≠ 0 := by simpa using he
    rw [ih]
    simp [ctrLoop, ctrTrace, he, ho, hl, temp]

/-- the instrumentation changes nothing -/
theorem ctrLoopT_erase (inc : Nat → Bytes → Bytes) (E : Bytes → Bytes) (bs B : Nat) (lazy : Bool) (fuel : Nat) (st : CtrState)
    (input out : Bytes) (tr : List CtrEv) :
    ((ctrLoopT inc E bs B lazy fuel st input out tr).1, (ctrLoopT inc E bs B lazy fuel st input out tr).2.1) =
      ctrLoop inc E bs B lazy fuel st input out := by
  rw [ctrLoopT_eq]

/-- **C08 for the CTR loop**: branches and addresses are a function of the buffer offset and the byte count -/
theorem C08_ctr_trace_public (inc : Nat → Bytes → Bytes) (E : Bytes → Bytes) (bs B : Nat) (lazy : Bool) (fuel : Nat) (st : CtrState)
    (input out : Bytes) (tr : List CtrEv) :
    (ctrLoopT inc E bs B lazy fuel st input out tr).2.2 = tr ++ ctrTrace (B * bs) fuel st.offset input.length := by
  rw [ctrLoopT_eq]

/-- two runs that differ in everything secret - schedule / block function, lane counters, buffered keystream, data
bytes, even the increment function - but agree on the public values have the same trace -/
theorem C08_ctr_trace_secret_independent (inc inc' : Nat → Bytes → Bytes) (E E' : Bytes → Bytes) (bs B : Nat) (lazy : Bool)
    (st st' : CtrState) (input input' : Bytes) (hoff : st.offset = st'.offset) (hlen : input.length = input'.length) :
    (ctrLoopT inc E bs B lazy (input.length + 1) st input [] []).2.2 =
      (ctrLoopT inc' E' bs B lazy (input'.length + 1) st' input' [] []).2.2 := by
  rw [C08_ctr_trace_public, C08_ctr_trace_public, hoff, hlen]

/-- total number of bytes the trace touches -/
def traceBytes (tr : List CtrEv) : Nat := (tr.map CtrEv.bytes).sum

/-- with enough fuel the trace covers exactly `len` bytes (consecutively: each event starts where the previous ended) -/
theorem ctrTrace_bytes (W : Nat) (hW : 0 < W) (fuel offset len : Nat) (hf : len < fuel) :
    traceBytes (ctrTrace W fuel offset len) = len := by
  fun_induction ctrTrace W fuel offset len with
  | case1 => omega
  | case2 => rfl
  | case3 fuel offset len hl ho hw ih =>
    simp only [traceBytes, List.map_cons, List.sum_cons, CtrEv.bytes] at ih ⊢
    rw [ih (by omega)]; omega
  | case4 fuel offset len hl ho hw => simp [traceBytes, CtrEv.bytes]
  | case5 fuel offset len hl ho temp ih =>
    simp only [traceBytes, List.map_cons, List.sum_cons, CtrEv.bytes] at ih ⊢
    rw [ih (by omega)]; omega

/-- every left-over access stays inside the keystream buffer -/
theorem ctrTrace_in_buffer (W : Nat) (fuel offset len : Nat) :
    ∀ e ∈ ctrTrace W fuel offset len, match e with
      | .leftover o n => o + n ≤ W
      | .refillWhole n => n = W
      | .refillTail n => n < W := by
  fun_induction ctrTrace W fuel offset len with
  | case1 => simp
  | case2 => simp
  | case3 fuel offset len hl ho hw ih => simpa using ih
  | case4 fuel offset len hl ho hw => simpa using Nat.lt_of_not_le hw
  | case5 fuel offset len hl ho temp ih =>
    simp only [List.mem_cons, forall_eq_or_imp]
    exact ⟨by show offset + temp ≤ W; omega, ih⟩

/-- **C09 for a CTR call**: the accesses cover exactly `[0, size)` of input and output (consecutive chunks whose sizes
add up to `size`), and every keystream access stays inside the context's buffer -/
theorem C09_ctr_extent (inc : Nat → Bytes → Bytes) (E : Bytes → Bytes) (bs B : Nat) (lazy : Bool) (hbs : 0 < bs) (hB : 0 < B)
    (st : CtrState) (input : Bytes) :
    let tr := (ctrLoopT inc E bs B lazy (input.length + 1) st input [] []).2.2
    traceBytes tr = input.length ∧
    ∀ e ∈ tr, match e with
      | .leftover o n => o + n ≤ B * bs
      | .refillWhole n => n = B * bs
      | .refillTail n => n < B * bs := by
  intro tr
  have htr : tr = ctrTrace (B * bs) (input.length + 1) st.offset input.length := by
    simp only [tr]; rw [C08_ctr_trace_public]; simp
  rw [htr]
  exact ⟨ctrTrace_bytes (B * bs) (Nat.mul_pos hB hbs) _ _ _ (by omega), ctrTrace_in_buffer _ _ _ _⟩

/-! ## parallel ECB: the loops depend on the byte count only -/

/-- iterations of the two loops: how many whole batches, how many single blocks -/
def parTrace (psize bs : Nat) (len : Nat) : Nat × Nat := (len / psize, (len % psize) / bs)

/-- number of batch-function calls made by `batched` -/
def batchedCalls (psize : Nat) : Nat → Nat → Nat
  | 0, _ => 0
  | fuel + 1, len => if psize ≤ len then 1 + batchedCalls psize fuel (len - psize) else 0

theorem batchedCalls_eq (psize : Nat) (hp : 0 < psize) (fuel len : Nat) (hf : len < fuel) :
    batchedCalls psize fuel len = len / psize := by
  fun_induction batchedCalls psize fuel len with
  | case1 => omega
  | case2 fuel len h ih => rw [ih (by omega), Nat.div_eq len psize, if_pos ⟨hp, h⟩, Nat.add_comm]
  | case3 fuel len h => exact (Nat.div_eq_of_lt (by omega)).symm

theorem parallelBlocks_length_le (F : Bytes → Bytes) (bs : Nat) (hF : ∀ c, c.length = bs → (F c).length = bs) (fuel : Nat) (input : Bytes) :
    (parallelBlocks F bs fuel input).length ≤ input.length := by
  fun_induction parallelBlocks F bs fuel input with
  | case1 => simp
  | case2 => simp
  | case3 fuel input h ih =>
    rw [List.length_append, hF _ (by simp; omega)]
    rw [List.length_drop] at ih
    omega

theorem batched_length_le (G F : Bytes → Bytes) (psize bs : Nat) (hG : ∀ c, c.length = psize → (G c).length = psize)
    (hF : ∀ c, c.length = bs → (F c).length = bs) (fuel : Nat) (input : Bytes) :
    (VecExec.batched G psize F bs fuel input).length ≤ input.length := by
  fun_induction VecExec.batched G psize F bs fuel input with
  | case1 => simp
  | case2 fuel input h ih =>
    rw [List.length_append, hG _ (by simp; omega)]
    rw [List.length_drop] at ih
    omega
  | case3 fuel input h => exact parallelBlocks_length_le F bs hF _ input

/-- **C08 / C09 for the parallel loops**: the output length, hence the number of batch and block iterations and every
address, is a function of the byte count; nothing outside `[0, size)` is produced -/
theorem C09_parallel_extent (G F : Bytes → Bytes) (psize bs : Nat) (hbs : 0 < bs) (hps : psize % bs = 0)
    (hG : ∀ c, c.length = psize → (G c).length = psize) (hF : ∀ c, c.length = bs → (F c).length = bs)
    (fuel : Nat) (input : Bytes) (hlen : input.length % bs = 0) :
    (VecExec.batched G psize F bs fuel input).length ≤ input.length :=
  batched_length_le G F psize bs hG hF fuel input

/-- non-vacuity: a 100-byte request on a 4 x 16 byte back end with 10 bytes of keystream left over -/
example : ctrTrace 64 101 54 100 = [.leftover 54 10, .refillWhole 64, .refillTail 26] := by decide

end SkinnyVerif.Properties
