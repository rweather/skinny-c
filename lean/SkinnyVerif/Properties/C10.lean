/-
C10 -- key lengths: the documented range is accepted and behaves as the key zero-padded to the
next primary size; every other length is rejected with 0 and leaves the schedule untouched.

The acceptance condition is the guard the translator reads off the C source on every run
(`Gen/Guards.lean`); the zero-padding rests on the generated size-specialised tweakey loaders
(`OpsCorrectG.tk2Load/tk3Load`: for every `junk`, i.e. no uninitialised memory enters).
-/
import SkinnyVerif.Lemmas.Ops64
import SkinnyVerif.Lemmas.KeySetup

namespace SkinnyVerif.Properties
open SkinnyVerif SkinnyVerif.Spec.Skinny SkinnyVerif.Impl SkinnyVerif.Lemmas

/-- next primary key size -/
def primary (bs n : Nat) : Nat := if n ≤ bs then bs else if n ≤ 2 * bs then 2 * bs else 3 * bs

/-- number of tweakey words of the padded key -/
theorem primary_div {bs : Nat} (hpos : 0 < bs) (size : Nat) (h1 : bs ≤ size) :
    primary bs size / bs = if size = bs then 1 else if size ≤ 2 * bs then 2 else 3 := by
  unfold primary
  by_cases c1 : size = bs
  · rw [if_pos c1, if_pos (Nat.le_of_eq c1), Nat.div_self hpos]
  · rw [if_neg c1, if_neg (by omega)]
    split <;> exact Nat.mul_div_cancel _ hpos

section
variable {b h s : Nat} {V : Variant b h s} (ok : V.OK) {o : SkinnyOps b h} (hc : OpsCorrectG V.A o)
include ok

/-- the specification's round count for the padded key is the one `set_key_inner` picks from `size` -/
theorem rounds_primary (size : Nat) (h1 : V.p.bs ≤ size) :
    V.rounds (primary V.p.bs size / V.p.bs) = if size = V.p.bs then V.p.r1 else if size ≤ 2 * V.p.bs then V.p.r2 else V.p.r3 := by
  rw [ok.rounds, primary_div ok.bs_pos size h1]
  split
  · rfl
  · split <;> rfl

include hc

/-- `set_key`, one block size, any correct table of generated pieces: every 32-bit size; acceptance,
no change on rejection, zero-padding on acceptance -/
theorem setKey_spec (ks0 : KeySched h) (hlen : V.p.r3 ≤ ks0.sched.length) (key : Bytes) (size : Nat)
    (hsz : size < 2 ^ 32) (hkey : size ≤ key.length ∨ size > 3 * V.p.bs) (j2 j3 : BitVec b) :
    let r := setKey o V.g V.p ks0 (some key) size j2 j3
    let K := padRight (primary V.p.bs size) (key.take size)
    (r.1 = 1 ↔ V.p.bs ≤ size ∧ size ≤ 3 * V.p.bs) ∧ (r.1 = 0 ∨ r.1 = 1) ∧ (r.1 = 0 → r.2 = ks0) ∧
    (r.1 = 1 → ∀ blk, ecbEncrypt o V.p r.2 blk = V.enc (K.length / V.p.bs) 0 K blk ∧
                      ecbDecrypt o V.p r.2 blk = V.dec (K.length / V.p.bs) 0 K blk) := by
  intro r K
  have hr : r = _ := ok.setKey_eq o ks0 key size hsz j2 j3
  by_cases hin : V.p.bs ≤ size ∧ size ≤ 3 * V.p.bs
  · rw [if_pos hin] at hr
    refine ⟨by simp [hr, hin], by simp [hr], by simp [hr], fun _ => ?_⟩
    rw [hr]
    apply ok.ecb_spec hc
    have hpos := ok.bs_pos
    have hk := ok.setKeyInner_plain hc ks0 hlen key size j2 j3 hin.1 hin.2
    have hKl : (key.take size).length = size := by rw [List.length_take]; omega
    have hp : size ≤ primary V.p.bs size := by unfold primary; split <;> (try split) <;> omega
    rw [show K.length = _ from length_padRight _ _, show K = _ from padRight_eq _ _ (by omega), ok.tweakey_pad,
      rounds_primary ok size hin.1]
    exact hk
  · rw [if_neg hin] at hr
    refine ⟨by simp [hr, hin], by simp [hr], by simp [hr], by simp [hr]⟩

end

theorem setKey_null {b h : Nat} (o : SkinnyOps b h) (g : SkinnyGuards) (p : SkinnyParams) (ks0 : KeySched h) (size : Nat)
    (j2 j3 : BitVec b) : setKey o g p ks0 none size j2 j3 = (0, ks0) := by
  simp only [setKey]; split <;> rfl

/-- SKINNY-128 `set_key`: every 32-bit size; acceptance, no change on rejection, zero-padding on acceptance -/
theorem C10_skinny128_set_key (t : Tag) (ks0 : KeySched 64) (hlen : 56 ≤ ks0.sched.length) (key : Bytes) (size : Nat)
    (hsz : size < 2 ^ 32) (hkey : size ≤ key.length ∨ size > 48) (j2 j3 : BitVec 128) :
    let r := setKey (ops128 t) guards128 p128 ks0 (some key) size j2 j3
    (r.1 = 1 ↔ 16 ≤ size ∧ size ≤ 48) ∧ (r.1 = 0 ∨ r.1 = 1) ∧ (r.1 = 0 → r.2 = ks0) ∧
    (r.1 = 1 → ∀ blk, ecbEncrypt (ops128 t) p128 r.2 blk = encrypt128 (padRight (primary 16 size) (key.take size)) blk ∧
                      ecbDecrypt (ops128 t) p128 r.2 blk = decrypt128 (padRight (primary 16 size) (key.take size)) blk) :=
  setKey_spec skinny128_ok (opsG128 t) ks0 hlen key size hsz hkey j2 j3

/-- a null key is rejected whatever the size -/
theorem C10_null_key128 (t : Tag) (ks0 : KeySched 64) (size : Nat) (hsz : size < 2 ^ 32) (j2 j3 : BitVec 128) :
    setKey (ops128 t) guards128 p128 ks0 none size j2 j3 = (0, ks0) := by
  have _ := hsz
  exact setKey_null _ _ _ ks0 size j2 j3

/-- SKINNY-64 `set_key`: every 32-bit size; acceptance, no change on rejection, zero-padding on acceptance -/
theorem C10_skinny64_set_key (t : Tag) (ks0 : KeySched 32) (hlen : 40 ≤ ks0.sched.length) (key : Bytes) (size : Nat)
    (hsz : size < 2 ^ 32) (hkey : size ≤ key.length ∨ size > 24) (j2 j3 : BitVec 64) :
    let r := setKey (ops64 t) guards64 p64 ks0 (some key) size j2 j3
    (r.1 = 1 ↔ 8 ≤ size ∧ size ≤ 24) ∧ (r.1 = 0 ∨ r.1 = 1) ∧ (r.1 = 0 → r.2 = ks0) ∧
    (r.1 = 1 → ∀ blk, ecbEncrypt (ops64 t) p64 r.2 blk = encrypt64 (padRight (primary 8 size) (key.take size)) blk ∧
                      ecbDecrypt (ops64 t) p64 r.2 blk = decrypt64 (padRight (primary 8 size) (key.take size)) blk) :=
  setKey_spec skinny64_ok (opsG64 t) ks0 hlen key size hsz hkey j2 j3

/-- a null key is rejected whatever the size -/
theorem C10_null_key64 (t : Tag) (ks0 : KeySched 32) (size : Nat) (hsz : size < 2 ^ 32) (j2 j3 : BitVec 64) :
    setKey (ops64 t) guards64 p64 ks0 none size j2 j3 = (0, ks0) := by
  have _ := hsz
  exact setKey_null _ _ _ ks0 size j2 j3

/-- Mantis accepts exactly 16-byte keys with 5 to 8 rounds, and leaves the schedule untouched otherwise -/
theorem C10_mantis_set_key (t : Tag) (ks0 : MantisKey) (key : Bytes) (size rounds : Nat) (mode : Int)
    (hs : size < 2 ^ 32) (hr : rounds < 2 ^ 32) :
    let r := mantisSetKey (opsMantis t) ks0 (some key) size rounds mode
    (r.1 = 1 ↔ size = 16 ∧ 5 ≤ rounds ∧ rounds ≤ 8) ∧ (r.1 = 0 → r.2 = ks0) := by
  intro r
  have hg := guardMantis_setKey (some key).isNone size rounds mode hs hr
  by_cases hin : size = 16 ∧ 5 ≤ rounds ∧ rounds ≤ 8
  · have hgf : mantisSetKeyGuard false (some key).isNone size rounds mode = false := by rw [hg]; simp; omega
    have : r.1 = 1 := by simp only [r, mantisSetKey, hgf, Bool.false_eq_true, if_false]
    exact ⟨by simp [this, hin], by simp [this]⟩
  · have hgt : mantisSetKeyGuard false (some key).isNone size rounds mode = true := by rw [hg]; simp; omega
    have : r = (0, ks0) := by simp only [r, mantisSetKey, hgt, if_true]
    exact ⟨by rw [this]; simp; omega, by rw [this]; simp⟩

end SkinnyVerif.Properties
