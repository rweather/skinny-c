/-
C05 / C06, the refill step of the vector CTR back ends as *translated code*.

`Properties/C06.lean` proves C05 and C06 for the lane state machine `ctrLoop … (lazy := true)`, whose refill step is
`lanes0 := lanes.map (inc pending); ec := lanes0.flatMap E`.  The C code of the four vector files does that step on a
strided image of the lane counters: `B` calls of the per-column `*_ctr_increment` followed by the batch block function
(`skinny128_ecb_encrypt_four/eight`, `skinny64_ecb_encrypt_eight`, `mantis_ecb_encrypt_eight`).  Both are translated from
the source on every run.  This file composes their theorems (`C05_v*c_increment`, `C06_*_keystream`) into the statement the
state machine needs: reading lane counter `j` of the image as the byte block `laneBlock* img j`,

* after the `B` translated increments lane `j` holds `skinnyN_inc_counter(lane j, pending)` - the *scalar* increment the
  generic back end uses (`IncSpec`, proved for the generated scalar function in `Properties/C06.lean`), and
* block `j` of the translated batch function on the new image is the scalar block encryption of that counter,

for every image, schedule, round count and `pending <= 8` (the code uses 0, 1..B).  What remains hand-modelled in the CTR
files after this: the buffering arithmetic around the refill (`offset`, `pending := B`, the xor calls - whose trace and
extents are `Properties/C08G.lean`), `set_counter` and the reset helpers.
-/
import SkinnyVerif.Properties.C06V
import SkinnyVerif.Properties.C05V
import SkinnyVerif.Properties.C06
import SkinnyVerif.Properties.C07M
import SkinnyVerif.Lemmas.ByteCells

namespace SkinnyVerif.Properties
open SkinnyVerif SkinnyVerif.Gen SkinnyVerif.Impl SkinnyVerif.Lemmas SkinnyVerif.Spec.Modes

theorem lane8_toNat {w : Nat} (x : BitVec w) (p : Nat) : (lane 8 p x).toNat = (x.toNat >>> (8 * p)) % 256 := by
  simp [lane, BitVec.extractLsb'_toNat]

theorem beNat_bytesOf {w : Nat} (n : Nat) (x : BitVec w) :
    beNat (bytesOf n x) = valLE ((List.range n).map fun t => (lane 8 (n - 1 - t) x).toNat) := by
  have e : (fun t => UInt8.ofNat (lane 8 (n - 1 - t) x).toNat) = UInt8.ofNat ∘ fun t => (lane 8 (n - 1 - t) x).toNat := rfl
  rw [beNat, bytesOf_lanes, ← List.map_reverse, range_reverse, List.map_map, Function.comp_def, e, ← List.map_map, ← valLE_eq_leNat,
    map_ofNat_toNat]
  intro b hb
  obtain ⟨t, _, rfl⟩ := List.mem_map.mp hb
  exact (lane 8 _ x).isLt

/-- a sequence of column increments over distinct columns adds `p` to exactly those columns -/
theorem fold_value {w : Nat} (F : IncFamily w) (p : BitVec 32) (hp : p.toNat + 255 < 2 ^ 32)
    (cs : List Nat) (hcs : cs.Nodup) (hlt : ∀ c ∈ cs, c < F.n) (img : BitVec w) (j : Nat) (hj : j < F.n) :
    columnValue (F.pos j) (cs.foldl (fun im c => F.inc c im p) img) =
      if j ∈ cs then (columnValue (F.pos j) img + p.toNat) % F.M else columnValue (F.pos j) img := by
  induction cs generalizing img with
  | nil => simp
  | cons c rest ih =>
    have hc : c < F.n := hlt c (by simp)
    have hnd := List.nodup_cons.mp hcs
    simp only [List.foldl_cons]
    rw [ih hnd.2 (fun d hd => hlt d (by simp [hd]))]
    by_cases hjc : j = c
    · subst hjc
      simp only [hnd.1, if_false, List.mem_cons, true_or, if_true]
      exact (F.spec j hc img p).1 hp
    · simp only [List.mem_cons, hjc, false_or, (F.spec c hc img p).2 j hj hjc]

/-- the refill step on the lane counters, for any family of lane increments and any way `col` of reading lane counter `j`
of the image as a block whose big-endian value is the column value: after one increment by `p` per column, lane `j` reads
as the scalar `inc_counter(·, p)` of what it read before -/
theorem refill_lanes {w b : Nat} (F : IncFamily w) (bs : Nat) (hM : F.M = 2 ^ (8 * bs)) (hspec : IncSpec bs)
    (col : BitVec w → Nat → BitVec b)
    (hval : ∀ im j, j < F.n → columnValue (F.pos j) im = valLE ((List.range bs).map fun t => (lane 8 (bs - 1 - t) (col im j)).toNat))
    (img : BitVec w) (p : BitVec 32) (hp : p.toNat ≤ 8) (j : Nat) (hj : j < F.n) :
    bytesOf bs (col ((List.range F.n).foldl (fun im c => F.inc c im p) img) j) = incCounter bs p.toNat (bytesOf bs (col img j)) := by
  have hb : ∀ im, natBE bs (beNat (bytesOf bs (col im j))) = bytesOf bs (col im j) := fun im => natBE_beNat bs _ (by simp [bytesOf])
  have hv : ∀ im, beNat (bytesOf bs (col im j)) = columnValue (F.pos j) im := fun im => by rw [beNat_bytesOf, hval im j hj]
  have h1 := hspec p.toNat hp (beNat (bytesOf bs (col img j)))
  rw [hb img] at h1
  have hc := fold_value F p (by omega) (List.range F.n) List.nodup_range (fun c hc => List.mem_range.mp hc) img j hj
  simp only [List.mem_range, hj, if_true] at hc
  rw [h1, ← hb (List.foldl _ _ _), hv, hc, hv, hM]

/-! ## Skinny-128 on 128-bit vectors -/

/-- lane counter `j` of the strided image of `skinny128-ctr-vec128.c`, as the 16-byte counter block it denotes -/
def laneBlock4 (img : BitVec 512) (j : Nat) : Bytes := bytesOf 16 (v128c_column img j)

/-- the four calls `skinny128_ctr_increment(ctx->counter, c, pending)`, `c = 0..3`, of the refill branch -/
def v128cIncAll (img : BitVec 512) (p : BitVec 32) : BitVec 512 := v128cInc 3 (v128cInc 2 (v128cInc 1 (v128cInc 0 img p) p) p) p

/-- **the refill step of `skinny128_ctr_vec128_encrypt`, as translated, is the refill step of the lane state machine**
(`ctrLoop … lazy := true`): the four translated lane increments turn lane counter `j` into `skinny128_inc_counter(·, pending)`
of it, and block `j` of the translated `skinny128_ecb_encrypt_four` on the new image is the scalar block encryption of that
counter - for every image, schedule, round count and `pending ≤ 8` -/
theorem C06R_vec128_refill (hspec : IncSpec 16) (ks : KeySched 64) (img : BitVec 512) (p : BitVec 32) (hp : p.toNat ≤ 8) (j : Nat) (hj : j < 4) :
    laneBlock4 (v128cIncAll img p) j = incCounter 16 p.toNat (laneBlock4 img j) ∧
    bytesOf 16 ((ctrEnc4 (schedUp ks) (v128cIncAll img p)).extractLsb' (128 * j) 128) =
      ecbEncrypt (ops128 .c32le) p128 ks (incCounter 16 p.toNat (laneBlock4 img j)) ∧
    bytesOf 16 ((ctrEnc4' (schedUp ks) (v128cIncAll img p)).extractLsb' (128 * j) 128) =
      ecbEncrypt (ops128 .c32le) p128 ks (incCounter 16 p.toNat (laneBlock4 img j)) := by
  have hinc : laneBlock4 (v128cIncAll img p) j = _ :=
    refill_lanes fam128 16 rfl hspec v128c_column v128c_column_value img p hp j hj
  have hk := C06_vec128_keystream ks (v128cIncAll img p) j hj (laneBlock4 (v128cIncAll img p) j) (image_bytesOf_128 _)
  rw [hinc] at hk
  exact ⟨hinc, hk.1, hk.2.1⟩

/-! ## Skinny-128 on 256-bit vectors -/

def laneBlock8 (img : BitVec 1024) (j : Nat) : Bytes := bytesOf 16 (v256c_column img j)

/-- the eight calls `skinny128_ctr_increment(ctx->counter, c, pending)` of the refill branch -/
def v256cIncAll (img : BitVec 1024) (p : BitVec 32) : BitVec 1024 := (List.range 8).foldl (fun im c => v256cInc c im p) img

theorem C06R_vec256_refill (hspec : IncSpec 16) (ks : KeySched 64) (img : BitVec 1024) (p : BitVec 32) (hp : p.toNat ≤ 8) (j : Nat) (hj : j < 8) :
    laneBlock8 (v256cIncAll img p) j = incCounter 16 p.toNat (laneBlock8 img j) ∧
    bytesOf 16 ((ctrEnc8 (schedUp ks) (v256cIncAll img p)).extractLsb' (128 * j) 128) =
      ecbEncrypt (ops128 .c32le) p128 ks (incCounter 16 p.toNat (laneBlock8 img j)) ∧
    bytesOf 16 ((ctrEnc8' (schedUp ks) (v256cIncAll img p)).extractLsb' (128 * j) 128) =
      ecbEncrypt (ops128 .c32le) p128 ks (incCounter 16 p.toNat (laneBlock8 img j)) := by
  have hinc : laneBlock8 (v256cIncAll img p) j = _ :=
    refill_lanes fam256 16 rfl hspec v256c_column v256c_column_value img p hp j hj
  have hk := C06_vec256_keystream ks (v256cIncAll img p) j hj (laneBlock8 (v256cIncAll img p) j) (image_bytesOf_128 _)
  rw [hinc] at hk
  exact ⟨hinc, hk.1, hk.2.1⟩

/-! ## Skinny-64 on 128-bit vectors -/

def laneBlockH (img : BitVec 512) (j : Nat) : Bytes := bytesOf 8 (v64c_column img j)

def v64cIncAll (img : BitVec 512) (p : BitVec 32) : BitVec 512 := (List.range 8).foldl (fun im c => v64cInc c im p) img

theorem C06R_vec64_refill (hspec : IncSpec 8) (ks : KeySched 32) (img : BitVec 512) (p : BitVec 32) (hp : p.toNat ≤ 8) (j : Nat) (hj : j < 8) :
    laneBlockH (v64cIncAll img p) j = incCounter 8 p.toNat (laneBlockH img j) ∧
    bytesOf 8 ((ctrEnc8h (schedUp64 ks) (v64cIncAll img p)).extractLsb' (64 * j) 64) =
      ecbEncrypt (ops64 .c32le) p64 ks (incCounter 8 p.toNat (laneBlockH img j)) := by
  have hinc : laneBlockH (v64cIncAll img p) j = _ :=
    refill_lanes fam64 8 rfl hspec v64c_column v64c_column_value img p hp j hj
  have hk := C06_vec64_keystream ks (v64cIncAll img p) j hj (laneBlockH (v64cIncAll img p) j) (image_bytesOf_64 _)
  rw [hinc] at hk
  exact ⟨hinc, hk.1⟩

/-! ## Mantis on 128-bit vectors -/

def laneBlockM (img : BitVec 512) (j : Nat) : Bytes := bytesOf 8 (laneSt img j)

def vmcIncAll (img : BitVec 512) (p : BitVec 32) : BitVec 512 := (List.range 8).foldl (fun im c => vmcInc c im p) img

theorem C06R_mantis_refill (hspec : IncSpec 8) (ks : MantisKey) (img : BitVec 512) (p : BitVec 32) (hp : p.toNat ≤ 8) (j : Nat) (hj : j < 8) :
    laneBlockM (vmcIncAll img p) j = incCounter 8 p.toNat (laneBlockM img j) ∧
    bytesOf 8 ((vecMantisCtr8 ks.image ks.rounds (vmcIncAll img p)).extractLsb' (64 * j) 64) =
      mantisCrypt (opsMantis .c64le) ks (incCounter 8 p.toNat (laneBlockM img j)) := by
  have hinc : laneBlockM (vmcIncAll img p) j = _ :=
    refill_lanes famM 8 rfl hspec laneSt vmc_column_value img p hp j hj
  have hk := C06_mantis_vec128_keystream ks (vmcIncAll img p) j hj (laneBlockM (vmcIncAll img p) j) (image_bytesOf_64 _)
  rw [hinc] at hk
  exact ⟨hinc, hk.1⟩

/-- the hypotheses are met: `IncSpec` holds for the generated scalar increments, `pending` is 0 or the batch size -/
example : IncSpec 16 ∧ IncSpec 8 ∧ (BitVec.ofNat 32 4).toNat ≤ 8 ∧ (BitVec.ofNat 32 8).toNat ≤ 8 := ⟨incSpec16, incSpec8, by decide, by decide⟩

end SkinnyVerif.Properties
