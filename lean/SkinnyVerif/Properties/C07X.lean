/-
C07 / C06 (parallel ECB), the executable vector model of the driver (`Impl/VecExec.lean`).

The model driver executes, for a parallel-ECB object served by a vector back end, the batch functions assembled from the
*translated vector code* inside the two loops of `skinnyN_parallel_ecb_encrypt/decrypt`.  This file shows

* `exec_*_eq`: the assemblies the driver runs are the ones the theorems of `C07V.lean` / `C07L.lean` are about, for both
  load / store configurations (word-wise, and the byte-wise paths of `SKINNY_UNALIGNED = 0`);
* `C07X_exec_is_ecb`: for every schedule, direction, back end, load / store configuration and byte count, what the driver
  prints is block-by-block ECB under the scalar block function - so the driver's vector model and its block-by-block
  model are the same function, and a difference between the compiled vector code and the driver is a difference from
  block-by-block ECB (C07) and from the generic back end (C06).
-/
import SkinnyVerif.Impl.VecExec
import SkinnyVerif.Properties.C07L
import SkinnyVerif.Properties.C07ML
import SkinnyVerif.Api.VecExecM

namespace SkinnyVerif.Properties
open SkinnyVerif SkinnyVerif.Gen SkinnyVerif.Impl SkinnyVerif.Lemmas SkinnyVerif.Spec.Modes SkinnyVerif.Spec.Skinny
open SkinnyVerif.Impl.VecExec

theorem exec_laneRows4 : @VecExec.laneRows4 = @laneRows := rfl
theorem exec_laneRows8 : @VecExec.laneRows8 = @Lemmas.laneRows8 := rfl
theorem exec_laneRowsH : @VecExec.laneRowsH = @Lemmas.laneRowsH := rfl
theorem exec_mapRows4 : @VecExec.mapRows4 = @mapRows := rfl
theorem exec_mapRows8 : @VecExec.mapRows8 = @Properties.mapRows8 := rfl
theorem exec_mapRowsH : @VecExec.mapRowsH = @Properties.mapRowsH := rfl

theorem exec_batched : @VecExec.batched = @parallelBatched := by
  funext G psize F bs fuel input
  induction fuel generalizing input with
  | zero => rfl
  | succ n ih => simp only [VecExec.batched, parallelBatched, ih]

theorem exec_up64 (ks : KeySched 64) : VecExec.up ks = schedUp ks := rfl
theorem exec_down64 (ks : KeySched 64) : VecExec.down ks = schedDown ks := rfl
theorem exec_up32 (ks : KeySched 32) : VecExec.up ks = schedUp64 ks := rfl
theorem exec_down32 (ks : KeySched 32) : VecExec.down ks = schedDown64 ks := rfl

/-- the driver's batch functions are the ones of `C07V.lean`, in either load / store configuration: they unfold to the
word-wise assemblies (`u = true`) and to the byte-wise ones, which are equal to those (C12) -/
theorem exec_enc4_eq (u : Bool) (s : List (BitVec 64)) (x : BitVec 512) : enc4 u s x = vecEnc4 s x := by
  cases u
  · exact C12_vec_unaligned_paths.1 s x
  · rfl
theorem exec_dec4_eq (u : Bool) (s : List (BitVec 64)) (x : BitVec 512) : dec4 u s x = vecDec4 s x := by
  cases u
  · exact C12_vec_unaligned_paths.2.1 s x
  · rfl
set_option maxRecDepth 8000 in
theorem exec_enc8_eq (u : Bool) (s : List (BitVec 64)) (x : BitVec 1024) : enc8 u s x = vecEnc8 s x := by
  cases u
  · exact C12_vec_unaligned_paths.2.2.1 s x
  · rfl
set_option maxRecDepth 8000 in
theorem exec_dec8_eq (u : Bool) (s : List (BitVec 64)) (x : BitVec 1024) : dec8 u s x = vecDec8 s x := by
  cases u
  · exact C12_vec_unaligned_paths.2.2.2.1 s x
  · rfl
theorem exec_enc8h_eq (u : Bool) (s : List (BitVec 32)) (x : BitVec 512) : enc8h u s x = vecEnc8h s x := by
  cases u <;> rfl
theorem exec_dec8h_eq (u : Bool) (s : List (BitVec 32)) (x : BitVec 512) : dec8h u s x = vecDec8h s x := by
  cases u <;> rfl

/-- **what the model driver prints for a parallel-ECB call on any back end is block-by-block ECB** under the scalar block
function of the 32-bit-word configuration (which C01 / C12 show equal to every other configuration's and to the
specification), for every schedule, direction, load / store configuration and byte count -/
theorem C07X_exec_is_ecb (be : Backend) (u enc : Bool) (ks : KeySched 64) (ks64 : KeySched 32) (input : Bytes) :
    par128 be u enc ks (if enc then ecbEncrypt (ops128 .c32le) p128 ks else ecbDecrypt (ops128 .c32le) p128 ks) input =
      ecb (if enc then ecbEncrypt (ops128 .c32le) p128 ks else ecbDecrypt (ops128 .c32le) p128 ks) 16 input ∧
    par64 be u enc ks64 (if enc then ecbEncrypt (ops64 .c32le) p64 ks64 else ecbDecrypt (ops64 .c32le) p64 ks64) input =
      ecb (if enc then ecbEncrypt (ops64 .c32le) p64 ks64 else ecbDecrypt (ops64 .c32le) p64 ks64) 8 input := by
  have h4 := C07_vec128_whole_buffer ks input
  have h8 := C07_vec256_vec64_whole_buffer ks ks64 input
  constructor
  · cases be <;> cases enc <;>
      simp only [par128, exec_batched, exec_enc4_eq, exec_dec4_eq, exec_enc8_eq, exec_dec8_eq, exec_up64, exec_down64,
        ↓reduceIte, Bool.false_eq_true]
    · exact parallelBlocks_eq_ecb _ 16 (by decide) input
    · exact parallelBlocks_eq_ecb _ 16 (by decide) input
    · exact h4.2
    · exact h4.1
    · exact h8.2.1
    · exact h8.1
  · cases be <;> cases enc <;>
      simp only [par64, exec_batched, exec_enc8h_eq, exec_dec8h_eq, exec_up32, exec_down32, ↓reduceIte, Bool.false_eq_true]
    · exact parallelBlocks_eq_ecb _ 8 (by decide) input
    · exact parallelBlocks_eq_ecb _ 8 (by decide) input
    · exact h8.2.2.2
    · exact h8.2.2.1
    · exact h8.2.2.2
    · exact h8.2.2.1

/-! ## Mantis -/

open SkinnyVerif.Api SkinnyVerif.Api.VecExecM in
theorem exec_mantis8 : @VecExecM.mantis8 = @Lemmas.vecMantis8 := rfl

open SkinnyVerif.Api SkinnyVerif.Api.VecExecM in
theorem exec_batchedM : @VecExecM.batchedM = @mantisBatched := by
  funext G o ks fuel tw inp
  induction fuel generalizing tw inp with
  | zero => rfl
  | succ n ih => simp only [VecExecM.batchedM, mantisBatched, ih]

open SkinnyVerif.Api SkinnyVerif.Api.VecExecM in
/-- **what the model driver prints for a Mantis parallel call on any back end** is block `i` under tweak `i` through the
scalar `mantis_ecb_crypt_tweaked` (64-bit-word pieces; C02 / C12 relate them to the other configurations and to the
specification), for every schedule, round count, tweak array and byte count -/
theorem C07X_mantis_exec (be : Backend) (ks : MantisKey) (tw inp : Bytes) :
    parMantis be (opsMantis .c64le) ks tw inp = mantisParBlocks (opsMantis .c64le) ks (inp.length + 1) tw inp := by
  have h := C07_mantis_whole_buffer ks tw inp
  cases be <;> simp only [parMantis, exec_batchedM, exec_mantis8]
  · exact h
  · exact h

end SkinnyVerif.Properties
