/-
C04 -- tweakable SKINNY: after `set_tweaked_key` and any finite sequence of tweak changes the
schedule encrypts and decrypts as the specification's cipher with TK1 = the most recent tweak
(zero-padded; null = all-zero; none yet = all-zero), the tweak-domain constant set, and the key
(zero-padded to a primary size) in TK2/TK3 -- never depending on earlier tweaks.
-/
import SkinnyVerif.Properties.C10

namespace SkinnyVerif.Properties
open SkinnyVerif SkinnyVerif.Spec.Skinny SkinnyVerif.Impl SkinnyVerif.Lemmas

/-- a tweak change as passed to the API: pointer (or null) and length -/
abbrev TweakArg := Option Bytes × Nat

/-- the tweak a valid call denotes -/
def effTweak (bs : Nat) (a : TweakArg) : Bytes := tweakBytes bs a.1 a.2

def validTweak (bs : Nat) (a : TweakArg) : Prop := 1 ≤ a.2 ∧ a.2 ≤ bs

/-- the most recent tweak of a history (all-zero if there was no change yet) -/
def lastTweak (bs : Nat) (hist : List TweakArg) : Bytes :=
  match hist.getLast? with
  | none => zeros bs
  | some a => effTweak bs a

def applyTweaks128 (t : Tag) (tk : TweakedKey 64) (hist : List TweakArg) : TweakedKey 64 :=
  hist.foldl (fun tk a => (setTweak (ops128 t) guards128 p128 tk a.1 a.2).2) tk

def applyTweaks64 (t : Tag) (tk : TweakedKey 32) (hist : List TweakArg) : TweakedKey 32 :=
  hist.foldl (fun tk a => (setTweak (ops64 t) guards64 p64 tk a.1 a.2).2) tk

theorem length_lastTweak (bs : Nat) (hist : List TweakArg) : (lastTweak bs hist).length = bs := by
  unfold lastTweak effTweak tweakBytes
  split
  · exact List.length_replicate
  · split
    · exact List.length_replicate
    · exact length_padRight _ _

section
variable {b h s : Nat} {V : Variant b h s}

/-- `applyTweaks128` / `applyTweaks64` for one block size and any table of generated pieces -/
def applyTweaks (V : Variant b h s) (o : SkinnyOps b h) (tk : TweakedKey h) (hist : List TweakArg) : TweakedKey h :=
  hist.foldl (fun tk a => (setTweak o V.g V.p tk a.1 a.2).2) tk

/-- invariant carried through the history: the schedule is keyed with TK1 = the stored tweak -/
def TweakKeyed (V : Variant b h s) (tk : TweakedKey h) (r : Nat) (c2 c3 : Cells s) : Prop :=
  Keyed V.A tk.ks r ⟨V.A.cells (image b tk.tweak), c2, c3⟩ 2

variable (ok : V.OK) {o : SkinnyOps b h} (hc : OpsCorrectG V.A o)
include ok

theorem applyTweaks_tweak (hist : List TweakArg) (tk : TweakedKey h) (hv : ∀ a ∈ hist, validTweak V.p.bs a)
    (h0 : tk.tweak = zeros V.p.bs) : (applyTweaks V o tk hist).tweak = lastTweak V.p.bs hist := by
  rcases List.eq_nil_or_concat hist with rfl | ⟨init, a, rfl⟩
  · exact h0
  · have ha := hv a (by simp)
    rw [List.concat_eq_append, applyTweaks, List.foldl_append, List.foldl_cons, List.foldl_nil,
      ok.setTweak_eq o _ a.1 a.2 ha.1 ha.2, lastTweak, List.getLast?_concat]
    rfl

include hc

theorem applyTweaks_keyed {r : Nat} {c2 c3 : Cells s} (hist : List TweakArg) (tk : TweakedKey h)
    (hv : ∀ a ∈ hist, validTweak V.p.bs a) (hk : TweakKeyed V tk r c2 c3) : TweakKeyed V (applyTweaks V o tk hist) r c2 c3 := by
  induction hist generalizing tk with
  | nil => exact hk
  | cons a rest ih =>
    have ha := hv a List.mem_cons_self
    refine ih _ (fun x hx => hv x (List.mem_cons_of_mem a hx)) ?_
    show TweakKeyed V (setTweak o V.g V.p tk a.1 a.2).2 r c2 c3
    rw [ok.setTweak_eq o tk a.1 a.2 ha.1 ha.2]
    exact Keyed.set_tweak hc _ _ hk

/-- tweakable schedules, one block size, any correct table of generated pieces: any key length from one
to two blocks, any history of valid tweak changes -/
theorem tweaked_spec (tk0 : TweakedKey h) (hlen : V.p.r3 ≤ tk0.ks.sched.length) (key : Bytes) (size : Nat)
    (hs1 : V.p.bs ≤ size) (hs2 : size ≤ 2 * V.p.bs) (hkey : size ≤ key.length) (j2 j3 : BitVec b)
    (hist : List TweakArg) (hv : ∀ a ∈ hist, validTweak V.p.bs a) (blk : Bytes) :
    let r := setTweakedKey o V.g V.p tk0 (some key) size j2 j3
    let tk := applyTweaks V o r.2 hist
    let K := padRight (if size = V.p.bs then V.p.bs else 2 * V.p.bs) (key.take size)
    r.1 = 1 ∧
    ecbEncrypt o V.p tk.ks blk = V.enc (K.length / V.p.bs + 1) 2 (lastTweak V.p.bs hist ++ K) blk ∧
    ecbDecrypt o V.p tk.ks blk = V.dec (K.length / V.p.bs + 1) 2 (lastTweak V.p.bs hist ++ K) blk := by
  intro r tk K
  have hr : r = _ := ok.setTweakedKey_eq o tk0 key size j2 j3 hs1 hs2
  have hpos := ok.bs_pos
  have hk0 := ok.setKeyInner_tweaked hc tk0.ks hlen key (zeros V.p.bs) size j2 j3 hs1 hs2
  have hk : TweakKeyed V tk _ _ _ := applyTweaks_keyed ok hc hist r.2 hv (by rw [hr]; exact hk0)
  have ht : tk.tweak = lastTweak V.p.bs hist := applyTweaks_tweak ok hist r.2 hv (by rw [hr])
  refine ⟨by rw [hr], ok.ecb_spec hc ?_ blk⟩
  have hKl : (key.take size).length = size := by rw [List.length_take]; omega
  rw [show K.length = _ from length_padRight _ _, Variant.OK.tweakey_append _ _ (length_lastTweak _ _),
    show K = _ from padRight_eq _ _ (by split <;> omega), ok.tweakey_pad, ok.ofBytes, ← ht, ok.rounds]
  by_cases c1 : size = V.p.bs
  · simpa [TweakKeyed, c1, Nat.div_self hpos] using hk
  · simpa [TweakKeyed, c1, Nat.mul_div_cancel _ hpos] using hk

end

/-- SKINNY-128 tweakable schedules: any key length 16..32, any history of valid tweak changes -/
theorem C04_skinny128 (t : Tag) (tk0 : TweakedKey 64) (hlen : 56 ≤ tk0.ks.sched.length) (key : Bytes) (size : Nat)
    (hs1 : 16 ≤ size) (hs2 : size ≤ 32) (hkey : size ≤ key.length) (j2 j3 : BitVec 128)
    (hist : List TweakArg) (hv : ∀ a ∈ hist, validTweak 16 a) (blk : Bytes) :
    let r := setTweakedKey (ops128 t) guards128 p128 tk0 (some key) size j2 j3
    let tk := applyTweaks128 t r.2 hist
    let K := padRight (if size = 16 then 16 else 32) (key.take size)
    r.1 = 1 ∧
    ecbEncrypt (ops128 t) p128 tk.ks blk = encryptTweaked128 K (lastTweak 16 hist) blk ∧
    ecbDecrypt (ops128 t) p128 tk.ks blk = decryptTweaked128 K (lastTweak 16 hist) blk :=
  tweaked_spec skinny128_ok (opsG128 t) tk0 hlen key size hs1 hs2 hkey j2 j3 hist hv blk

/-- SKINNY-64 tweakable schedules: any key length 8..16, any history of valid tweak changes -/
theorem C04_skinny64 (t : Tag) (tk0 : TweakedKey 32) (hlen : 40 ≤ tk0.ks.sched.length) (key : Bytes) (size : Nat)
    (hs1 : 8 ≤ size) (hs2 : size ≤ 16) (hkey : size ≤ key.length) (j2 j3 : BitVec 64)
    (hist : List TweakArg) (hv : ∀ a ∈ hist, validTweak 8 a) (blk : Bytes) :
    let r := setTweakedKey (ops64 t) guards64 p64 tk0 (some key) size j2 j3
    let tk := applyTweaks64 t r.2 hist
    let K := padRight (if size = 8 then 8 else 16) (key.take size)
    r.1 = 1 ∧
    ecbEncrypt (ops64 t) p64 tk.ks blk = encryptTweaked64 K (lastTweak 8 hist) blk ∧
    ecbDecrypt (ops64 t) p64 tk.ks blk = decryptTweaked64 K (lastTweak 8 hist) blk :=
  tweaked_spec skinny64_ok (opsG64 t) tk0 hlen key size hs1 hs2 hkey j2 j3 hist hv blk

/-- non-vacuity: a history with a short tweak, a null tweak and a full tweak is valid -/
example : ∀ a ∈ ([(some [1, 2, 3], 3), (none, 16), (some (List.replicate 16 9), 16)] : List TweakArg), validTweak 16 a := by
  intro a ha
  simp at ha
  rcases ha with h | h | h <;> subst h <;> simp [validTweak]

end SkinnyVerif.Properties
