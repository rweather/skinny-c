/-
C03 -- decryption inverts encryption (and vice versa), SKINNY part.

Specification level: for every tweakey, domain constant and round count
(`Lemmas.decrypt_encrypt`, `Lemmas.encrypt_decrypt`).  Implementation level: through
`set_key` + `ecb_encrypt` / `ecb_decrypt` in every configuration, by C01/C10; through the
tweakable schedules after any tweak history, by C04.  (The parallel functions are block-by-block
applications of the same block functions in the model -- see C07; Mantis -- see C02.)
-/
import SkinnyVerif.Properties.C04

namespace SkinnyVerif.Properties
open SkinnyVerif SkinnyVerif.Spec.Skinny SkinnyVerif.Impl SkinnyVerif.Lemmas

/-- specification, byte level: SKINNY-128 with any key -/
theorem spec128_dec_enc (key blk : Bytes) (hb : blk.length = 16) : decrypt128 key (encrypt128 key blk) = blk :=
  skinny128_ok.dec_enc _ _ key blk hb
theorem spec128_enc_dec (key blk : Bytes) (hb : blk.length = 16) : encrypt128 key (decrypt128 key blk) = blk :=
  skinny128_ok.enc_dec _ _ key blk hb
theorem spec64_dec_enc (key blk : Bytes) (hb : blk.length = 8) : decrypt64 key (encrypt64 key blk) = blk :=
  skinny64_ok.dec_enc _ _ key blk hb
theorem spec64_enc_dec (key blk : Bytes) (hb : blk.length = 8) : encrypt64 key (decrypt64 key blk) = blk :=
  skinny64_ok.enc_dec _ _ key blk hb

section
variable {b h s : Nat} {V : Variant b h s} (ok : V.OK) {o : SkinnyOps b h} (hc : OpsCorrectG V.A o)
include ok

/-- two functions that are the specification's encryption and decryption under one tweakey invert each other on blocks -/
theorem inverse_of_spec {E D : Bytes → Bytes} {z : Nat} {dom : BitVec s} {K : Bytes}
    (h : ∀ blk, E blk = V.enc z dom K blk ∧ D blk = V.dec z dom K blk) (blk : Bytes) (hb : blk.length = V.p.bs) :
    D (E blk) = blk ∧ E (D blk) = blk :=
  ⟨by rw [(h blk).1, (h _).2, ok.dec_enc _ _ _ _ hb], by rw [(h blk).2, (h _).1, ok.enc_dec _ _ _ _ hb]⟩

include hc

theorem setKey_inverse (ks0 : KeySched h) (hlen : V.p.r3 ≤ ks0.sched.length) (key : Bytes) (size : Nat)
    (h1 : V.p.bs ≤ size) (h2 : size ≤ 3 * V.p.bs) (hkey : size ≤ key.length) (j2 j3 : BitVec b) (blk : Bytes) (hb : blk.length = V.p.bs) :
    let ks := (setKey o V.g V.p ks0 (some key) size j2 j3).2
    ecbDecrypt o V.p ks (ecbEncrypt o V.p ks blk) = blk ∧ ecbEncrypt o V.p ks (ecbDecrypt o V.p ks blk) = blk := by
  have hs := ok.small
  obtain ⟨hacc, _, _, hres⟩ := setKey_spec ok hc ks0 hlen key size (by omega) (Or.inl hkey) j2 j3
  exact inverse_of_spec ok (hres (hacc.mpr ⟨h1, h2⟩)) blk hb

theorem tweaked_inverse (tk0 : TweakedKey h) (hlen : V.p.r3 ≤ tk0.ks.sched.length) (key : Bytes) (size : Nat)
    (hs1 : V.p.bs ≤ size) (hs2 : size ≤ 2 * V.p.bs) (hkey : size ≤ key.length) (j2 j3 : BitVec b)
    (hist : List TweakArg) (hv : ∀ a ∈ hist, validTweak V.p.bs a) (blk : Bytes) (hb : blk.length = V.p.bs) :
    let tk := applyTweaks V o (setTweakedKey o V.g V.p tk0 (some key) size j2 j3).2 hist
    ecbDecrypt o V.p tk.ks (ecbEncrypt o V.p tk.ks blk) = blk ∧ ecbEncrypt o V.p tk.ks (ecbDecrypt o V.p tk.ks blk) = blk :=
  inverse_of_spec ok (fun x => (tweaked_spec ok hc tk0 hlen key size hs1 hs2 hkey j2 j3 hist hv x).2) blk hb

end

/-- implementation: SKINNY-128, any accepted key length, every configuration, both orders -/
theorem C03_skinny128 (t : Tag) (ks0 : KeySched 64) (hlen : 56 ≤ ks0.sched.length) (key : Bytes) (size : Nat)
    (h1 : 16 ≤ size) (h2 : size ≤ 48) (hkey : size ≤ key.length) (j2 j3 : BitVec 128) (blk : Bytes) (hb : blk.length = 16) :
    let ks := (setKey (ops128 t) guards128 p128 ks0 (some key) size j2 j3).2
    ecbDecrypt (ops128 t) p128 ks (ecbEncrypt (ops128 t) p128 ks blk) = blk ∧
    ecbEncrypt (ops128 t) p128 ks (ecbDecrypt (ops128 t) p128 ks blk) = blk :=
  setKey_inverse skinny128_ok (opsG128 t) ks0 hlen key size h1 h2 hkey j2 j3 blk hb

theorem C03_skinny64 (t : Tag) (ks0 : KeySched 32) (hlen : 40 ≤ ks0.sched.length) (key : Bytes) (size : Nat)
    (h1 : 8 ≤ size) (h2 : size ≤ 24) (hkey : size ≤ key.length) (j2 j3 : BitVec 64) (blk : Bytes) (hb : blk.length = 8) :
    let ks := (setKey (ops64 t) guards64 p64 ks0 (some key) size j2 j3).2
    ecbDecrypt (ops64 t) p64 ks (ecbEncrypt (ops64 t) p64 ks blk) = blk ∧
    ecbEncrypt (ops64 t) p64 ks (ecbDecrypt (ops64 t) p64 ks blk) = blk :=
  setKey_inverse skinny64_ok (opsG64 t) ks0 hlen key size h1 h2 hkey j2 j3 blk hb

/-- tweakable schedules after any tweak history -/
theorem C03_tweaked128 (t : Tag) (tk0 : TweakedKey 64) (hlen : 56 ≤ tk0.ks.sched.length) (key : Bytes) (size : Nat)
    (hs1 : 16 ≤ size) (hs2 : size ≤ 32) (hkey : size ≤ key.length) (j2 j3 : BitVec 128)
    (hist : List TweakArg) (hv : ∀ a ∈ hist, validTweak 16 a) (blk : Bytes) (hb : blk.length = 16) :
    let tk := applyTweaks128 t (setTweakedKey (ops128 t) guards128 p128 tk0 (some key) size j2 j3).2 hist
    ecbDecrypt (ops128 t) p128 tk.ks (ecbEncrypt (ops128 t) p128 tk.ks blk) = blk ∧
    ecbEncrypt (ops128 t) p128 tk.ks (ecbDecrypt (ops128 t) p128 tk.ks blk) = blk :=
  tweaked_inverse skinny128_ok (opsG128 t) tk0 hlen key size hs1 hs2 hkey j2 j3 hist hv blk hb

theorem C03_tweaked64 (t : Tag) (tk0 : TweakedKey 32) (hlen : 40 ≤ tk0.ks.sched.length) (key : Bytes) (size : Nat)
    (hs1 : 8 ≤ size) (hs2 : size ≤ 16) (hkey : size ≤ key.length) (j2 j3 : BitVec 64)
    (hist : List TweakArg) (hv : ∀ a ∈ hist, validTweak 8 a) (blk : Bytes) (hb : blk.length = 8) :
    let tk := applyTweaks64 t (setTweakedKey (ops64 t) guards64 p64 tk0 (some key) size j2 j3).2 hist
    ecbDecrypt (ops64 t) p64 tk.ks (ecbEncrypt (ops64 t) p64 tk.ks blk) = blk ∧
    ecbEncrypt (ops64 t) p64 tk.ks (ecbDecrypt (ops64 t) p64 tk.ks blk) = blk :=
  tweaked_inverse skinny64_ok (opsG64 t) tk0 hlen key size hs1 hs2 hkey j2 j3 hist hv blk hb

end SkinnyVerif.Properties
