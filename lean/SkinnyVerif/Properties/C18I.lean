/-
C18, interleavings: a call on one object does not look at, and does not touch, the context of another object
(frame property of every public call that is neither `init` nor `cleanup`); therefore two calls on distinct objects
commute - same final state, each call the same result - and so does every interleaving of two threads that work on
disjoint sets of objects: it is indistinguishable from running one thread after the other.

This is a theorem about the object model (`Api/World.lean`, `Api/Machine.lean`), at the granularity of whole calls
under sequentially consistent memory; data races inside the compiled code are the ThreadSanitizer oracle's job.
-/
import SkinnyVerif.Properties.C18
import SkinnyVerif.Properties.C14

namespace SkinnyVerif.Properties
open SkinnyVerif SkinnyVerif.Impl SkinnyVerif.Api

/-- the pointer of a handle is not `j` -/
def Avoids (h : Option Handle) (j : Nat) : Prop := ∀ hd, h = some hd → ∀ id, hd.ctx = .ptr id → id ≠ j

/-- **frame property of every call other than `init` / `cleanup`**: with another object's context set to any value
before the call, the call does exactly the same and leaves that context as set -/
theorem callStep_frame (bd : Build) (w : World) (k : Kind) (h : Handle) (c : Call) (hi : c.isInit = false) (hcl : c.isCleanup = false)
    (j : Nat) (u : CtxVal) (hav : Avoids (some h) j) :
    callStep bd (w.setVal j u) k (some h) c = (callStep bd w k (some h) c).map (fun r => (r.1.setVal j u, r.2.1, r.2.2)) :=
  (call_spec bd k h c hi hcl).frame.eq w (.ptr j) (some u) fun id hid e => hav h rfl id hid (PtrVal.ptr.inj e ▸ rfl)

/-- two functions that each store into their own context and leave the other's alone commute -/
theorem swap_of_frame {α β : Type} {F : World → M (World × α)} {G : World → M (World × β)} {w : World} {p q : PtrVal}
    {v u : Option CtxVal} {a : α} {b : β} (frF : Frame p F) (frG : Frame q G) (hF : F w = .ok (store w p v, a))
    (hG : G w = .ok (store w q u, b)) (hd : ∀ i, p = .ptr i → q ≠ .ptr i) :
    G (store w p v) = .ok (store (store w p v) q u, b) ∧ F (store w q u) = .ok (store (store w p v) q u, a) := by
  rw [frF.eq w q u hd, frG.eq w p v fun i a b => hd i b a, hF, hG]
  exact ⟨congrArg (fun x => Except.ok (x, b)) (store_comm w v u hd).symm, rfl⟩

/-- **two calls on distinct objects commute**: whichever runs first, each returns what it returns alone (`out1`, `out2`)
and the world ends up the same (`wf`) -/
theorem C18_calls_commute (bd : Build) (w : World) (k1 k2 : Kind) (h1 h2 : Handle) (c1 c2 : Call)
    (hwf1 : WFH w k1 h1) (hwf2 : WFH w k2 h2)
    (hi1 : c1.isInit = false) (hcl1 : c1.isCleanup = false) (hi2 : c2.isInit = false) (hcl2 : c2.isCleanup = false)
    (hdis : ∀ id1 id2, h1.ctx = .ptr id1 → h2.ctx = .ptr id2 → id1 ≠ id2) :
    ∃ w1 w2 wf out1 out2,
      callStep bd w k1 (some h1) c1 = .ok (w1, some h1, out1) ∧ callStep bd w k2 (some h2) c2 = .ok (w2, some h2, out2) ∧
      callStep bd w1 k2 (some h2) c2 = .ok (wf, some h2, out2) ∧ callStep bd w2 k1 (some h1) c1 = .ok (wf, some h1, out1) := by
  have s1 := call_spec bd k1 h1 c1 hi1 hcl1
  have s2 := call_spec bd k2 h2 c2 hi2 hcl2
  obtain ⟨v1, out1, e1, -⟩ := s1.total w hwf1
  obtain ⟨v2, out2, e2, -⟩ := s2.total w hwf2
  obtain ⟨e12, e21⟩ := swap_of_frame s1.frame s2.frame e1 e2 fun i a b => hdis i i a b rfl
  exact ⟨_, _, _, out1, out2, e1, e2, e12, e21⟩

/-! ## every interleaving of two threads working on disjoint objects -/

/-- the caller's objects: kind and handle bytes (fixed: calls other than `init` / `cleanup` never change a handle) -/
abbrev Handles := List (Kind × Handle)

/-- every handle is usable in `w`, and no two own the same context -/
structure GoodW (hs : Handles) (w : World) : Prop where
  wf : ∀ (i : Nat) (k : Kind) (h : Handle), hs[i]? = some (k, h) → WFH w k h
  dis : ∀ (i j : Nat) (ki : Kind) (hi : Handle) (kj : Kind) (hj : Handle) (idi idj : Nat), hs[i]? = some (ki, hi) → hs[j]? = some (kj, hj) → i ≠ j → hi.ctx = .ptr idi → hj.ctx = .ptr idj → idi ≠ idj

/-- one call of a thread: object index and call -/
structure TCall where
  obj : Nat
  call : Call
  notInit : call.isInit = false
  notCleanup : call.isCleanup = false

def stepW (bd : Build) (hs : Handles) (w : World) (t : TCall) : M (World × Out) :=
  match hs[t.obj]? with
  | some (k, h) => do let r ← callStep bd w k (some h) t.call; pure (r.1, r.2.2)
  | none => pure (w, {})

def runW (bd : Build) (hs : Handles) : World → List TCall → M (World × List Out)
  | w, [] => pure (w, [])
  | w, t :: ts => do
    let r ← stepW bd hs w t
    let r' ← runW bd hs r.1 ts
    pure (r'.1, r.2 :: r'.2)

/-- the context a thread's call works on -/
def TCall.ctx (hs : Handles) (t : TCall) : PtrVal :=
  match hs[t.obj]? with
  | some (_, h) => h.ctx
  | none => .null

theorem GoodW.disjoint {hs : Handles} {w : World} (hg : GoodW hs w) {t1 t2 : TCall} (hne : t1.obj ≠ t2.obj) :
    ∀ i, t1.ctx hs = .ptr i → t2.ctx hs ≠ .ptr i := by
  intro i
  unfold TCall.ctx
  cases h1 : hs[t1.obj]? with
  | none => nofun
  | some kh1 =>
    cases h2 : hs[t2.obj]? with
    | none => nofun
    | some kh2 => exact fun c1 c2 => hg.dis _ _ _ _ _ _ i i h1 h2 hne c1 c2 rfl

/-- a step from a good world succeeds, stores into its own context only, and leads to a good world -/
theorem stepW_store (bd : Build) {hs : Handles} {w : World} (hg : GoodW hs w) (t : TCall) :
    ∃ v? out, stepW bd hs w t = .ok (store w (t.ctx hs) v?, out) ∧ GoodW hs (store w (t.ctx hs) v?) := by
  cases ho : hs[t.obj]? with
  | none => exact ⟨none, {}, by simp only [stepW, ho]; rfl, hg⟩
  | some kh =>
    obtain ⟨k, h⟩ := kh
    have hctx : t.ctx hs = h.ctx := by simp only [TCall.ctx, ho]
    obtain ⟨v?, out, hc, hq, -⟩ := (call_spec bd k h t.call t.notInit t.notCleanup).total w (hg.wf _ _ _ ho)
    refine ⟨v?, out, by simp only [stepW, ho, hc, hctx]; rfl, fun i k' h' hi' => (hg.wf i k' h' hi').store fun v id hv hp hid => ?_, hg.dis⟩
    by_cases hij : i = t.obj
    · subst hij; rw [ho] at hi'; cases hi'; exact (hq.1 v hv).1
    · exact absurd rfl (hg.dis i t.obj k' h' k h id id hi' ho hij hid (hctx ▸ hp))

theorem stepW_frame (bd : Build) (hs : Handles) (t : TCall) : Frame (t.ctx hs) fun w => stepW bd hs w t := by
  refine ⟨fun w p v? hav => ?_⟩
  unfold stepW TCall.ctx at *
  cases ho : hs[t.obj]? with
  | none => rfl
  | some kh =>
    rw [ho] at hav
    show (callStep bd (store w p v?) kh.1 (some kh.2) t.call >>= _) = Except.map _ (callStep bd w kh.1 (some kh.2) t.call >>= _)
    rw [(call_spec bd kh.1 kh.2 t.call t.notInit t.notCleanup).frame.eq w p v? hav]
    cases callStep bd w kh.1 (some kh.2) t.call <;> rfl

/-- two adjacent calls on different objects can be swapped -/
theorem stepW_swap (bd : Build) {hs : Handles} {w w1 w12 : World} {t1 t2 : TCall} {o1 o2 : Out} (hg : GoodW hs w) (hne : t1.obj ≠ t2.obj)
    (e1 : stepW bd hs w t1 = .ok (w1, o1)) (e12 : stepW bd hs w1 t2 = .ok (w12, o2)) :
    ∃ w2, stepW bd hs w t2 = .ok (w2, o2) ∧ stepW bd hs w2 t1 = .ok (w12, o1) ∧ GoodW hs w2 := by
  obtain ⟨v1, _, h1, -⟩ := stepW_store bd hg t1
  obtain ⟨v2, _, h2, hg2⟩ := stepW_store bd hg t2
  obtain ⟨h12, h21⟩ := swap_of_frame (stepW_frame bd hs t1) (stepW_frame bd hs t2) h1 h2 (hg.disjoint hne)
  rw [h1] at e1; cases e1
  rw [h12] at e12; cases e12
  exact ⟨_, h2, h21, hg2⟩

theorem runW_cons {bd : Build} {hs : Handles} {w wf : World} {t : TCall} {ts : List TCall} {os : List Out} :
    runW bd hs w (t :: ts) = .ok (wf, os) ↔
      ∃ w1 o os', stepW bd hs w t = .ok (w1, o) ∧ runW bd hs w1 ts = .ok (wf, os') ∧ os = o :: os' := by
  simp only [runW, bind_ok, Prod.exists, pure, Except.pure, Except.ok.injEq, Prod.mk.injEq]
  constructor
  · rintro ⟨w1, o, e, wf', os', er, rfl, rfl⟩; exact ⟨_, _, _, e, er, rfl⟩
  · rintro ⟨w1, o, os', e, er, rfl⟩; exact ⟨_, _, e, _, _, er, rfl, rfl⟩

theorem runW_good (bd : Build) (hs : Handles) (ts : List TCall) (w : World) (hg : GoodW hs w) :
    ∃ w' outs, runW bd hs w ts = .ok (w', outs) ∧ GoodW hs w' ∧ outs.length = ts.length := by
  induction ts generalizing w with
  | nil => exact ⟨w, [], rfl, hg, rfl⟩
  | cons t rest ih =>
    obtain ⟨_, o, e, hg1⟩ := stepW_store bd hg t
    obtain ⟨w2, os, e2, hg2, hl⟩ := ih _ hg1
    exact ⟨w2, o :: os, runW_cons.mpr ⟨_, _, _, e, e2, rfl⟩, hg2, congrArg (· + 1) hl⟩

theorem runW_append (bd : Build) (hs : Handles) (a b : List TCall) (w w1 w2 : World) (oa ob : List Out)
    (ha : runW bd hs w a = .ok (w1, oa)) (hb : runW bd hs w1 b = .ok (w2, ob)) :
    runW bd hs w (a ++ b) = .ok (w2, oa ++ ob) := by
  induction a generalizing w oa with
  | nil => cases (show Except.ok (w, []) = Except.ok (w1, oa) from ha); exact hb
  | cons t rest ih =>
    obtain ⟨_, _, _, e, er, rfl⟩ := runW_cons.mp ha
    exact runW_cons.mpr ⟨_, _, _, e, ih _ _ er, rfl⟩

/-- a call moves past any number of calls on other objects: same final world, same result for every call -/
theorem run_swap (bd : Build) (hs : Handles) (t : TCall) (ts : List TCall) (hne : ∀ x ∈ ts, x.obj ≠ t.obj) {w w1 wa : World} {o : Out}
    {os : List Out} (hg : GoodW hs w) (e : stepW bd hs w t = .ok (w1, o)) (er : runW bd hs w1 ts = .ok (wa, os)) :
    ∃ wm, runW bd hs w ts = .ok (wm, os) ∧ stepW bd hs wm t = .ok (wa, o) := by
  induction ts generalizing w w1 os with
  | nil => cases (show Except.ok (w1, []) = Except.ok (wa, os) from er); exact ⟨w, rfl, e⟩
  | cons x ts ih =>
    obtain ⟨_, _, _, ex, er', rfl⟩ := runW_cons.mp er
    obtain ⟨w2, e2, e21, hg2⟩ := stepW_swap bd hg (hne x (.head _)).symm e ex
    obtain ⟨wm, hr, ht⟩ := ih (fun y hy => hne y (.tail _ hy)) hg2 e21 er'
    exact ⟨wm, runW_cons.mpr ⟨_, _, _, e2, hr, rfl⟩, ht⟩

/-- the calls of one thread, and their outputs, out of an interleaving -/
def threadOf (tag : Bool) : List (Bool × TCall) → List TCall
  | [] => []
  | x :: l => if x.1 = tag then x.2 :: threadOf tag l else threadOf tag l
def outsOf (tag : Bool) : List (Bool × TCall) → List Out → List Out
  | x :: l, o :: os => if x.1 = tag then o :: outsOf tag l os else outsOf tag l os
  | _, _ => []

theorem mem_threadOf {tag : Bool} {y : TCall} {l : List (Bool × TCall)} (h : y ∈ threadOf tag l) : (tag, y) ∈ l := by
  induction l with
  | nil => cases h
  | cons x l ih =>
    unfold threadOf at h
    split at h
    · rcases List.mem_cons.mp h with rfl | h'
      · rename_i e; rw [← e]; exact .head _
      · exact .tail _ (ih h')
    · exact .tail _ (ih h)

/-- **every interleaving of two threads that work on disjoint objects is indistinguishable from running thread 1 and
then thread 2**: the same final world, and every call returns what it returns in the sequential run
(`outsOf tag l outs`: the results of thread `tag`'s calls in the interleaved run, in order) -/
theorem C18_interleaving (bd : Build) (hs : Handles) (l : List (Bool × TCall))
    (hdisj : ∀ x ∈ l, ∀ y ∈ l, x.1 = true → y.1 = false → x.2.obj ≠ y.2.obj) (w : World) (hg : GoodW hs w) :
    ∃ wf outs wm, runW bd hs w (l.map (·.2)) = .ok (wf, outs) ∧
      runW bd hs w (threadOf true l) = .ok (wm, outsOf true l outs) ∧
      runW bd hs wm (threadOf false l) = .ok (wf, outsOf false l outs) := by
  induction l generalizing w with
  | nil => exact ⟨w, [], w, rfl, rfl, rfl⟩
  | cons x rest ih =>
    obtain ⟨tag, t⟩ := x
    obtain ⟨_, o, e, hg1⟩ := stepW_store bd hg t
    obtain ⟨wf, outs, wa, er, e1r, e2r⟩ := ih (fun a ha b hb => hdisj a (.tail _ ha) b (.tail _ hb)) _ hg1
    have hrun : runW bd hs w (((tag, t) :: rest).map (·.2)) = .ok (wf, o :: outs) := runW_cons.mpr ⟨_, _, _, e, er, rfl⟩
    cases tag with
    | true => exact ⟨wf, o :: outs, wa, hrun, runW_cons.mpr ⟨_, _, _, e, e1r, rfl⟩, e2r⟩
    | false =>
      -- `t` is thread 2's; it moves behind the calls of thread 1 that follow it
      obtain ⟨wm, hr, ht⟩ := run_swap bd hs t (threadOf true rest)
        (fun y hy => hdisj (true, y) (.tail _ (mem_threadOf hy)) (false, t) (.head _) rfl rfl) hg e e1r
      exact ⟨wf, o :: outs, wm, hrun, hr, runW_cons.mpr ⟨_, _, _, ht, e2r, rfl⟩⟩

/-- non-vacuity: two zeroed (inert) objects form a good world, so the theorem applies from the very first calls -/
example : GoodW [(.ctr .s128, zeroHandle), (.par .mantis, zeroHandle)] {} := by
  have hz : ∀ (i : Nat) (k : Kind) (h : Handle), [(Kind.ctr .s128, zeroHandle), (.par .mantis, zeroHandle)][i]? = some (k, h) → h = zeroHandle := by
    intro i k h hi
    match i, hi with
    | 0, hi => cases hi; rfl
    | 1, hi => cases hi; rfl
  exact ⟨fun i k h hi => hz i k h hi ▸ inert_zero.wfh _ _, fun i j ki hi kj hj idi idj h1 _ _ c1 _ => by rw [hz i ki hi h1] at c1; cases c1⟩

/-- the hypothesis of `C18_interleaving` holds in every state the object layer can reach (C14 `Reachable`), for the
objects that have been initialised or zeroed: the safety invariant gives usable handles and single ownership -/
theorem goodW_of_inv (s : Sys) (hinv : Inv s) (hready : ∀ (j : Nat) (o : Obj), s.objs[j]? = some o → o.ready = true) :
    GoodW (s.objs.map (fun o => (o.kind, o.h))) s.w := by
  have hget : ∀ {i : Nat} {k : Kind} {h : Handle}, (s.objs.map (fun o => (o.kind, o.h)))[i]? = some (k, h) →
      ∃ o, s.objs[i]? = some o ∧ (o.kind, o.h) = (k, h) := fun hi =>
    Option.map_eq_some_iff.mp (List.getElem?_map .. ▸ hi)
  refine ⟨fun i k h hi => ?_, fun i j ki hi kj hj idi idj h1 h2 hne c1 c2 e => ?_⟩
  · obtain ⟨o, ho, ⟨⟩⟩ := hget hi
    exact hinv.wf i o ho (hready i o ho)
  · obtain ⟨o1, ho1, ⟨⟩⟩ := hget h1
    obtain ⟨o2, ho2, ⟨⟩⟩ := hget h2
    exact hne (hinv.inj i j o1 o2 idi ho1 ho2 c1 (e ▸ c2))

theorem C18_interleaving_reachable (bd : Build) (hg : Good bd) (s : Sys) (hr : Reachable bd s)
    (hready : ∀ (j : Nat) (o : Obj), s.objs[j]? = some o → o.ready = true) (l : List (Bool × TCall))
    (hdisj : ∀ x ∈ l, ∀ y ∈ l, x.1 = true → y.1 = false → x.2.obj ≠ y.2.obj) :
    let hs := s.objs.map (fun o => (o.kind, o.h))
    ∃ wf outs wm, runW bd hs s.w (l.map (·.2)) = .ok (wf, outs) ∧
      runW bd hs s.w (threadOf true l) = .ok (wm, outsOf true l outs) ∧
      runW bd hs wm (threadOf false l) = .ok (wf, outsOf false l outs) :=
  C18_interleaving bd _ l hdisj s.w (goodW_of_inv s (reachable_inv bd hg s hr) hready)

end SkinnyVerif.Properties
