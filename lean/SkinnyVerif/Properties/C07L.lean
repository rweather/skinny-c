/-
C07, the loops of `skinnyN_parallel_ecb_encrypt / _decrypt`: whole batches of `psize` bytes go through the back end's
batch function, whatever is left goes block by block through the scalar function.  For every byte count the result is
block-by-block ECB, provided the batch function agrees with the block function on every block of one batch - which is
what `C07_vec128_block`, `C07_vec256_block`, `C07_vec64_block` show for the translated vector code.

`parallelBatched` is a hand model of the two `while` loops (tied to the source by the function's hash and by the
correspondence on every block count); the batch function inside it is the translated vector code.
-/
import SkinnyVerif.Properties.C07
import SkinnyVerif.Properties.C07V
import SkinnyVerif.Lemmas.Ecb

namespace SkinnyVerif.Properties
open SkinnyVerif SkinnyVerif.Gen SkinnyVerif.Impl SkinnyVerif.Lemmas SkinnyVerif.Spec.Modes SkinnyVerif.Spec.Skinny

/-- the two loops: `while (size >= psize) batch; while (size >= bs) block` -/
def parallelBatched (G : Bytes → Bytes) (psize : Nat) (F : Bytes → Bytes) (bs : Nat) : Nat → Bytes → Bytes
  | 0, _ => []
  | fuel + 1, input =>
    if psize ≤ input.length then G (input.take psize) ++ parallelBatched G psize F bs fuel (input.drop psize)
    else parallelBlocks F bs (input.length + 1) input

/-- **the loops compute block-by-block ECB for every byte count** -/
theorem parallelBatched_eq_ecb (G F : Bytes → Bytes) (bs B : Nat) (hbs : 0 < bs) (hB : 0 < B)
    (hG : ∀ chunk : Bytes, chunk.length = B * bs → G chunk = ecb F bs chunk) (fuel : Nat) (input : Bytes) (hf : input.length < fuel) :
    parallelBatched G (B * bs) F bs fuel input = ecb F bs input := by
  induction fuel generalizing input with
  | zero => omega
  | succ n ih =>
    simp only [parallelBatched]
    by_cases hp : B * bs ≤ input.length
    · simp only [hp, if_true]
      have hpos : 0 < B * bs := Nat.mul_pos hB hbs
      have htl : (input.take (B * bs)).length = B * bs := by rw [List.length_take]; omega
      have hdl : (input.drop (B * bs)).length < n := by rw [List.length_drop]; omega
      rw [hG _ htl, ih _ hdl, ← ecb_append F bs hbs B _ _ htl, List.take_append_drop]
    · simp only [hp, if_false]
      exact parallelBlocks_eq_ecb F bs (by omega) input

/-! ## down to bytes -/

/-- the bytes of a batch are those of its blocks -/
theorem bytesOf_blocks {w : Nat} (bs B : Nat) (X : BitVec w) :
    bytesOf (B * bs) X = (List.range B).flatMap fun j => bytesOf bs (X.extractLsb' (8 * bs * j) (8 * bs)) := by
  have hblk : ∀ j, bytesOf bs (X.extractLsb' (8 * bs * j) (8 * bs)) = (List.range bs).map fun i => UInt8.ofNat (lane 8 (bs * j + i) X).toNat := by
    intro j
    rw [bytesOf_lanes]
    apply List.map_congr_left
    intro i hi
    rw [lane_extractLsb' 8 i _ _ X (Nat.mul_le_mul_left 8 (List.mem_range.mp hi)), Nat.mul_assoc, ← Nat.mul_add, lane]
  simp only [hblk, bytesOf_lanes]
  induction B with
  | zero => simp
  | succ n ih =>
    rw [Nat.succ_mul, List.range_add, List.map_append, ih, List.range_succ, List.flatMap_append, List.map_map, Nat.mul_comm n]
    simp [Function.comp_def]

theorem image_block_gen (W bs : Nat) (chunk : Bytes) (j : Nat) (hj : 8 * bs * (j + 1) ≤ W) :
    image (8 * bs) ((chunk.drop (bs * j)).take bs) = (image W chunk).extractLsb' (8 * bs * j) (8 * bs) := by
  apply eq_of_lanes 8 bs (by decide) (Nat.le_refl _)
  intro i hi
  have h1 : 8 * (i + 1) ≤ 8 * bs := by omega
  have h2 : 8 * (bs * j + i + 1) ≤ W := by rw [Nat.mul_succ, Nat.mul_assoc] at hj; omega
  rw [lane8_image _ _ i h1, lane_extractLsb' 8 i _ _ _ h1, Nat.mul_assoc, ← Nat.mul_add, ← lane, lane8_image W chunk _ h2]
  congr 2
  simp only [List.getD_eq_getElem?_getD, List.getElem?_take, hi, if_true, List.getElem?_drop]

/-- ECB of a whole number of blocks, block by block -/
theorem ecb_blocks (F : Bytes → Bytes) (bs : Nat) (hbs : 0 < bs) (B : Nat) (chunk : Bytes) (hlen : chunk.length = B * bs) :
    ecb F bs chunk = (List.range B).flatMap fun j => F ((chunk.drop (bs * j)).take bs) := by
  induction B generalizing chunk with
  | zero => rw [ecb_short F bs chunk (by omega)]; rfl
  | succ n ih =>
    rw [Nat.succ_mul] at hlen
    rw [ecb_step F bs hbs chunk (by omega), ih _ (by rw [List.length_drop]; omega), List.range_succ_eq_map, List.flatMap_cons,
      List.flatMap_map]
    simp only [Nat.mul_zero, List.drop_zero, List.drop_drop, Nat.mul_succ, Nat.add_comm]

/-- a batch function that writes, at block `j`, the block function of input block `j` is ECB on the batch -/
theorem batch_is_ecb {w : Nat} (F : Bytes → Bytes) (bs : Nat) (hbs : 0 < bs) (B : Nat) (X : BitVec w) (chunk : Bytes)
    (hlen : chunk.length = B * bs)
    (hblk : ∀ j, j < B → bytesOf bs (X.extractLsb' (8 * bs * j) (8 * bs)) = F ((chunk.drop (bs * j)).take bs)) :
    bytesOf (B * bs) X = ecb F bs chunk := by
  rw [bytesOf_blocks, ecb_blocks F bs hbs B chunk hlen, List.flatMap_def, List.flatMap_def,
    List.map_congr_left fun j hj => hblk j (List.mem_range.mp hj)]

/-- the loops around a batch function on images that treats block `j` of its batch as `F` does (the shape of
`C07_vec128_block` …): block-by-block ECB for every byte count -/
theorem batched_blockwise {W : Nat} (F : Bytes → Bytes) (bs B : Nat) (hbs : 0 < bs) (hB : 0 < B) (hW : 8 * bs * B ≤ W)
    (G : BitVec W → BitVec W)
    (hG : ∀ x j, j < B → ∀ blk, image (8 * bs) blk = x.extractLsb' (8 * bs * j) (8 * bs) →
      bytesOf bs ((G x).extractLsb' (8 * bs * j) (8 * bs)) = F blk) (input : Bytes) :
    parallelBatched (fun c => bytesOf (B * bs) (G (image W c))) (B * bs) F bs (input.length + 1) input = ecb F bs input :=
  parallelBatched_eq_ecb _ F bs B hbs hB (fun c hc => batch_is_ecb F bs hbs B _ c hc fun j hj =>
    hG _ j hj _ (image_block_gen W bs c j (Nat.le_trans (Nat.mul_le_mul_left _ hj) hW))) _ input (by omega)

/-- the batch function of the 128-bit vector back end on 64 bytes -/
def vec128EncBytes (ks : KeySched 64) (chunk : Bytes) : Bytes := bytesOf 64 (vecEnc4 (schedUp ks) (image 512 chunk))
def vec128DecBytes (ks : KeySched 64) (chunk : Bytes) : Bytes := bytesOf 64 (vecDec4 (schedDown ks) (image 512 chunk))

/-- **parallel ECB on the 128-bit vector back end, every byte count**: batches through the translated vector code, the
rest through the scalar function = block-by-block ECB, hence (for keys of a primary size, by C01) the specification -/
theorem C07_vec128_whole_buffer (ks : KeySched 64) (input : Bytes) :
    parallelBatched (vec128EncBytes ks) (4 * 16) (ecbEncrypt (ops128 .c32le) p128 ks) 16 (input.length + 1) input =
      ecb (ecbEncrypt (ops128 .c32le) p128 ks) 16 input ∧
    parallelBatched (vec128DecBytes ks) (4 * 16) (ecbDecrypt (ops128 .c32le) p128 ks) 16 (input.length + 1) input =
      ecb (ecbDecrypt (ops128 .c32le) p128 ks) 16 input :=
  ⟨batched_blockwise _ 16 4 (by decide) (by decide) (by decide) (vecEnc4 (schedUp ks))
     (fun x j hj blk hb => (C07_vec128_block ks x j hj blk hb).1) input,
   batched_blockwise _ 16 4 (by decide) (by decide) (by decide) (vecDec4 (schedDown ks))
     (fun x j hj blk hb => (C07_vec128_block ks x j hj blk hb).2) input⟩

def vec256EncBytes (ks : KeySched 64) (chunk : Bytes) : Bytes := bytesOf 128 (vecEnc8 (schedUp ks) (image 1024 chunk))
def vec256DecBytes (ks : KeySched 64) (chunk : Bytes) : Bytes := bytesOf 128 (vecDec8 (schedDown ks) (image 1024 chunk))
def vec64EncBytes (ks : KeySched 32) (chunk : Bytes) : Bytes := bytesOf 64 (vecEnc8h (schedUp64 ks) (image 512 chunk))
def vec64DecBytes (ks : KeySched 32) (chunk : Bytes) : Bytes := bytesOf 64 (vecDec8h (schedDown64 ks) (image 512 chunk))

/-- **parallel ECB through the 256-bit Skinny-128 and the 128-bit Skinny-64 vector back ends, every byte count** -/
theorem C07_vec256_vec64_whole_buffer (ks : KeySched 64) (ks64 : KeySched 32) (input : Bytes) :
    parallelBatched (vec256EncBytes ks) (8 * 16) (ecbEncrypt (ops128 .c32le) p128 ks) 16 (input.length + 1) input =
      ecb (ecbEncrypt (ops128 .c32le) p128 ks) 16 input ∧
    parallelBatched (vec256DecBytes ks) (8 * 16) (ecbDecrypt (ops128 .c32le) p128 ks) 16 (input.length + 1) input =
      ecb (ecbDecrypt (ops128 .c32le) p128 ks) 16 input ∧
    parallelBatched (vec64EncBytes ks64) (8 * 8) (ecbEncrypt (ops64 .c32le) p64 ks64) 8 (input.length + 1) input =
      ecb (ecbEncrypt (ops64 .c32le) p64 ks64) 8 input ∧
    parallelBatched (vec64DecBytes ks64) (8 * 8) (ecbDecrypt (ops64 .c32le) p64 ks64) 8 (input.length + 1) input =
      ecb (ecbDecrypt (ops64 .c32le) p64 ks64) 8 input :=
  ⟨batched_blockwise _ 16 8 (by decide) (by decide) (by decide) (vecEnc8 (schedUp ks))
     (fun x j hj blk hb => (C07_vec256_block ks x j hj blk hb).1) input,
   batched_blockwise _ 16 8 (by decide) (by decide) (by decide) (vecDec8 (schedDown ks))
     (fun x j hj blk hb => (C07_vec256_block ks x j hj blk hb).2) input,
   batched_blockwise _ 8 8 (by decide) (by decide) (by decide) (vecEnc8h (schedUp64 ks64))
     (fun x j hj blk hb => (C07_vec64_block ks64 x j hj blk hb).1) input,
   batched_blockwise _ 8 8 (by decide) (by decide) (by decide) (vecDec8h (schedDown64 ks64))
     (fun x j hj blk hb => (C07_vec64_block ks64 x j hj blk hb).2) input⟩

end SkinnyVerif.Properties
