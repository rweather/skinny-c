/-
C05 -- CTR mode: output = input xor E(c), E(c+1), ... however the calls split the data;
C06 (CTR part) -- the generic and the vector back ends are observationally identical for every
sequence of operations, including key or tweak changes in the middle of a stream.

`E` is the block function under the current key and tweak (for the library: its own
single-block encryption, which C01/C02/C04 identify with the specification).  Counter
arithmetic enters through `IncSpec`: the generated `skinnyN_inc_counter` adds small numbers to a
big-endian counter block modulo 2^(8·bs).
-/
import SkinnyVerif.Lemmas.Ctr

namespace SkinnyVerif.Properties
open SkinnyVerif SkinnyVerif.Impl SkinnyVerif.Lemmas SkinnyVerif.Spec.Modes

/-- what CTR mode needs from the counter increment: for `k ≤ 8`, big-endian addition mod 2^(8·bs) -/
def IncSpec (bs : Nat) : Prop :=
  ∀ k, k ≤ 8 → ∀ v, incCounter bs k (natBE bs v) = natBE bs ((v + k) % 2 ^ (8 * bs))

/-- block 0 of the specification's counter family is the counter block itself (`hrt` and `hlt` hold for every `c` of
`bs` bytes: `ctrBlock_zero_eq`) -/
theorem ctrBlock_zero (bs : Nat) (c : Bytes) (hc : c.length = bs) (hrt : natBE bs (beNat c) = c)
    (hlt : beNat c < 2 ^ (8 * bs)) : ctrBlock bs c 0 = c := by
  simp [ctrBlock, Nat.mod_eq_of_lt hlt, hrt]

theorem ctrBlock_zero_eq (bs : Nat) (c : Bytes) (hc : c.length = bs) : ctrBlock bs c 0 = c :=
  ctrBlock_zero bs c hc (natBE_beNat bs c hc) (hc ▸ beNat_lt c)

theorem counterBlock_length (bs : Nat) (counter : Option Bytes) (size : Nat) (hs : size ≤ bs) :
    (counterBlock bs counter size).length = bs := by
  cases counter with
  | none => simp [counterBlock, zeros]
  | some c =>
    simp only [counterBlock, padLeft, zeros, List.length_append, List.length_replicate, List.length_take]
    omega

theorem counterBlock_eq_spec (bs : Nat) (counter : Option Bytes) (size : Nat) :
    counterBlock bs counter size = counterOf bs (counter.map (·.take size)) := by
  cases counter <;> rfl

/-- the generated increment steps the specification's counter family -/
theorem inc_family (bs B : Nat) (hB8 : B ≤ 8) (hspec : IncSpec bs) (c : Bytes) (k i : Nat) (hk : k ≤ B) :
    incCounter bs k (ctrBlock bs c i) = ctrBlock bs c (i + k) := by
  simp only [ctrBlock]
  rw [hspec k (by omega)]
  congr 1
  rw [Nat.add_mod, Nat.mod_mod, ← Nat.add_mod, Nat.add_assoc]

section
variable (E : Bytes → Bytes) (bs B : Nat) (lazy : Bool)
variable (hbs : 0 < bs) (hB : 0 < B) (hB8 : B ≤ 8) (hE : ∀ x, (E x).length = bs) (hspec : IncSpec bs)
include hbs hB hB8 hE hspec

omit hE in
/-- `set_counter` (and `init`, which is `set_counter(NULL, 0)` on the zeroed context) establishes
the invariant at stream position 0 of the stream that starts at the given counter block -/
theorem setCounter_inv (E' : Bytes → Bytes) (st : CtrState) (counter : Option Bytes) (size : Nat) (hs : size ≤ bs) :
    CInv E' bs B lazy (ctrBlock bs (counterBlock bs counter size)) 0 0 (st.setCounter bs B counter size) := by
  have hc0 := ctrBlock_zero_eq bs _ (counterBlock_length bs counter size hs)
  have hW : 0 < B * bs := Nat.mul_pos hB hbs
  refine (cinv_iff hW).mpr ⟨0, 0, ?_, Nat.zero_le B, by cases lazy <;> simp [CtrState.setCounter], by simp [CtrState.setCounter], hW, fun h => absurd h (Nat.lt_irrefl _)⟩
  apply List.map_congr_left
  intro j hj
  by_cases h0 : j = 0
  · rw [if_pos h0, h0, hc0]
  · have := inc_family bs B hB8 hspec (counterBlock bs counter size) j 0 (Nat.le_of_lt (List.mem_range.mp hj))
    rw [hc0] at this
    rwa [if_neg h0]

/-- one `encrypt` call at stream position `n` -/
theorem ctrEncrypt_inv (c : Bytes) (b0 n : Nat) (st : CtrState) (data : Bytes) (hinv : CInv E bs B lazy (ctrBlock bs c) b0 n st) :
    (ctrEncrypt E bs B lazy st data).2 = xorBytes data (ksRange E bs (fun i => ctrBlock bs c (b0 + i)) n data.length) ∧
    CInv E bs B lazy (ctrBlock bs c) b0 (n + data.length) (ctrEncrypt E bs B lazy st data).1 := by
  simpa [ctrEncrypt] using ctrLoop_spec (incCounter bs) E bs B lazy (ctrBlock bs c) hbs hB hE (inc_family bs B hB8 hspec c) b0 (data.length + 1)
    st data [] n (by omega) hinv

/-- C05: any sequence of `encrypt` calls after a counter set produces the CTR transformation of the
concatenated input, call by call, independently of how the data is cut (zero-length calls included) -/
theorem C05_calls (c : Bytes) (calls : List Bytes) :
    ∀ (st : CtrState) (n : Nat), CInv E bs B lazy (ctrBlock bs c) 0 n st →
    let run := calls.foldl (fun (acc : CtrState × List Bytes) data =>
        let r := ctrEncrypt E bs B lazy acc.1 data; (r.1, acc.2 ++ [r.2])) (st, [])
    run.2.flatten = Spec.Modes.ctr E bs c n calls.flatten ∧
    List.map List.length run.2 = List.map List.length calls ∧
    CInv E bs B lazy (ctrBlock bs c) 0 (n + calls.flatten.length) run.1 := by
  induction calls with
  | nil => intro st n hinv; exact ⟨by simp [Spec.Modes.ctr, xorBytes], rfl, hinv⟩
  | cons d rest ih =>
    intro st n hinv
    obtain ⟨hout, hinv'⟩ := ctrEncrypt_inv E bs B lazy hbs hB hB8 hE hspec c 0 n st d hinv
    rw [← ctr_eq_ksRange] at hout
    obtain ⟨h1, h2, h3⟩ := ih _ _ hinv'
    simp only [List.foldl_cons, List.nil_append]
    rw [foldl_outs (ctrEncrypt E bs B lazy)]
    refine ⟨?_, ?_, ?_⟩
    · rw [List.flatten_append, h1, hout]; simp [ctr_append]
    · rw [List.map_append, h2, hout]; simp [ctr_length]
    · rwa [List.flatten_cons, List.length_append, ← Nat.add_assoc]

end
end SkinnyVerif.Properties
