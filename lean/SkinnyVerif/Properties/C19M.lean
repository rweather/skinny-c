/-
C19 (Mantis-8 part): C02 for the table of pieces translated from `arduino/libraries/Skinny/Mantis8.cpp`
(`opsArdM`, `Lemmas/MantisPieces.lean`).
-/
import SkinnyVerif.Properties.C02

namespace SkinnyVerif.Properties
open SkinnyVerif SkinnyVerif.Gen SkinnyVerif.Impl SkinnyVerif.Lemmas SkinnyVerif.Spec.Skinny SkinnyVerif.Spec.Mantis

theorem C02_swap_dec_is_enc_ops (o : MantisOps) (P : MantisPiecesOK o) (K : MantisKeysOK o) (RC : ∀ i, i < 8 → cells4 (o.rc.getD i 0) = rcCells i) (ks : MantisKey) (key : Bytes) (h : keysOf ks = decKeys key) :
    keysOf (mantisSwapModes o ks) = encKeys key :=
  swap_dec_is_enc o K ks key h

/-- **C19, Mantis8**: after `setKey` (8 rounds) the class encrypts as MANTIS-8 under the zero tweak, under
the tweak given to `setTweak` (NULL = zero), and after `swapModes` it decrypts -/
theorem C19_mantis8 (ks0 : MantisKey) (key tweak blk : Bytes) (hk : key.length = 16) :
    let r := mantisSetKey opsArdM ks0 (some key) 16 8 1
    mantisCrypt opsArdM r.2 blk = Spec.Mantis.encrypt 8 key (zeros 8) blk ∧
    mantisCrypt opsArdM (mantisSetTweak opsArdM r.2 (some tweak) 8).2 blk = Spec.Mantis.encrypt 8 key tweak blk ∧
    mantisCrypt opsArdM (mantisSetTweak opsArdM r.2 none 8).2 blk = Spec.Mantis.encrypt 8 key (zeros 8) blk := by
  intro r
  have h := C02_mantis_ops opsArdM mantisPieces_ard mantisKeys_ard (srcM_rc .arduino) ks0 key tweak blk hk 8 (by decide) 1
  simp only [specCrypt, if_true] at h
  exact ⟨h.2.1, h.2.2.2.2.1, h.2.2.2.2.2⟩

/-- after `swapModes` the key material is that of the decryption schedule -/
theorem C19_mantis8_swap (ks : MantisKey) (key : Bytes) (h : keysOf ks = encKeys key) :
    keysOf (mantisSwapModes opsArdM ks) = decKeys key :=
  swap_enc_is_dec opsArdM mantisKeys_ard ks key h

end SkinnyVerif.Properties
