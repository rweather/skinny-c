/-
C14 (error contract), C15 (life cycle), C16 (allocation failure), C17 (wipe before free):
corollaries of the object-layer safety theorem (`Properties/Objects.lean`), for every history.
-/
import SkinnyVerif.Properties.Objects

namespace SkinnyVerif.Properties
open SkinnyVerif SkinnyVerif.Impl SkinnyVerif.Api

/-! ## inert objects: zeroed, cleaned up, or left behind by a failed `init` -/

/-- every call other than `init` on an inert object returns 0 (or is void), changes nothing in
the world, and leaves the object inert -/
theorem inert_call (bd : Build) (w : World) (k : Kind) (h : Handle) (hin : Inert h) (c : Call) (hc : c.isInit = false) :
    ∃ h' out, callStep bd w k (some h) c = .ok (w, some h', out) ∧ Inert h' ∧ (out.ret = none ∨ out.ret = some 0) ∧ out.data = [] := by
  rcases call_cases c with ⟨p, rfl⟩ | rfl | ⟨-, hcl⟩
  · cases hc
  · obtain ⟨h', e, hin'⟩ := cleanup_inert bd w k h hin
    exact ⟨h', {}, e, hin', Or.inl rfl, rfl⟩
  · obtain ⟨v?, out, e, -, hn⟩ := (call_spec bd k h c hc hcl).total w (hin.wfh w k)
    rw [hin.1, store_null] at e
    exact ⟨h, out, e, hin, hn hin.1⟩

/-! ## reachable states -/

/-- the states the library can be in after any history a C caller may produce -/
def Reachable (bd : Build) (s : Sys) : Prop :=
  ∃ ops outs, AllowedRun bd {} ops ∧ runSys bd {} ops = .ok (s, outs)

theorem reachable_inv (bd : Build) (hg : Good bd) (s : Sys) (hr : Reachable bd s) : Inv s := by
  obtain ⟨ops, outs, hal, hrun⟩ := hr
  obtain ⟨s', outs', hrun', hinv⟩ := run_ok bd hg ops {} inv_init hal
  rw [hrun] at hrun'
  cases hrun'
  exact hinv

/-- **C14/C15/C16 (no undefined behaviour)**: no allowed history makes the library dereference a
null, wild or freed pointer or free a block twice -/
theorem C14_no_fault (bd : Build) (hg : Good bd) (ops : List Op) (hal : AllowedRun bd {} ops) :
    ∃ s outs, runSys bd {} ops = .ok (s, outs) := by
  obtain ⟨s, outs, h, _⟩ := run_ok bd hg ops {} inv_init hal
  exact ⟨s, outs, h⟩

/-! ## C14: a call that returns 0 changes nothing -/

theorem C14_failed_call_changes_nothing (bd : Build) (s : Sys) (hinv : Inv s) (j : Nat) (o : Obj) (c : Call)
    (ho : s.objs[j]? = some o) (hr : o.ready = true) (hi : c.isInit = false) (hcl : c.isCleanup = false) :
    ∃ s' out, stepSys bd s (.call o.kind (some j) c) = .ok (s', out) ∧ s'.objs = s.objs ∧ (out.ret = some 0 → s' = s) := by
  obtain ⟨v?, out, hcall, hq, -⟩ := (call_spec bd o.kind o.h c hi hcl).total s.w (hinv.wf j o ho hr)
  have hobjs : updObjs s.objs j o.h c.isInit = s.objs := by
    apply List.ext_getElem?
    intro i
    by_cases h : j = i
    · subst h; rw [updObjs_self ho, ho, hi, Bool.or_false]
    · rw [updObjs_other _ _ _ h]
  refine ⟨_, out, step_call_eq ho hcall, hobjs, fun hret => ?_⟩
  cases v? with
  | none => rw [hobjs]; rfl
  | some v => exact absurd hret (hq.1 v rfl).2

theorem C14_null_object (bd : Build) (hg : Good bd) (s : Sys) (k : Kind) (c : Call) :
    ∃ out, stepSys bd s (.call k none c) = .ok (s, out) ∧ (out.ret = none ∨ out.ret = some 0) := by
  obtain ⟨out, hcall, hret⟩ := call_null bd hg.parNull s.w k c
  exact ⟨out, step_null_eq hcall, hret⟩

/-- a zeroed, cleaned-up or failed-to-initialise object: every call returns 0 and nothing changes
except that the object stays inert -/
theorem C14_inert_object (bd : Build) (s : Sys) (j : Nat) (o : Obj) (c : Call) (ho : s.objs[j]? = some o)
    (hin : Inert o.h) (hi : c.isInit = false) :
    ∃ s' out, stepSys bd s (.call o.kind (some j) c) = .ok (s', out) ∧ s'.w = s.w ∧ (out.ret = none ∨ out.ret = some 0) ∧ out.data = [] ∧
      ∃ o', s'.objs[j]? = some o' ∧ Inert o'.h := by
  obtain ⟨h', out, hcall, hin', hret, hdata⟩ := inert_call bd s.w o.kind o.h hin c hi
  exact ⟨_, out, step_call_eq ho hcall, rfl, hret, hdata, _, updObjs_self ho _ _, hin'⟩

/-! ## C14: invalid arguments are rejected with 0 -/

/-- on a usable object of either kind a call with invalid arguments returns 0 and changes nothing -/
theorem invalid_arguments (bd : Build) (w : World) (k : Kind) (h : Handle) (c : Call) (hwf : WFH w k h)
    (hbad : InvalidArgs k c) (hsz : sizesOK c) :
    ∃ out, callStep bd w k (some h) c = .ok (w, some h, out) ∧ out.ret = some 0 ∧ out.data = [] := by
  have hi : c.isInit = false ∧ c.isCleanup = false := by
    cases c <;> first | exact ⟨rfl, rfl⟩ | (cases k <;> rename_i f <;> cases f <;> exact absurd hbad id)
  obtain ⟨_, _, e, hq, -⟩ := (call_spec bd k h c hi.1 hi.2).total w hwf
  cases hq.2 hbad hsz
  exact ⟨_, e, rfl, rfl⟩

theorem C14_invalid_arguments_ctr (bd : Build) (w : World) (f : Family) (h : Handle) (c : Call) (hwf : WFH w (.ctr f) h)
    (hbad : InvalidArgs (.ctr f) c) (hsz : sizesOK c) :
    ∃ out, callStep bd w (.ctr f) (some h) c = .ok (w, some h, out) ∧ out.ret = some 0 ∧ out.data = [] :=
  invalid_arguments bd w _ h c hwf hbad hsz

theorem C14_invalid_arguments_par (bd : Build) (w : World) (f : Family) (h : Handle) (c : Call) (hwf : WFH w (.par f) h)
    (hbad : InvalidArgs (.par f) c) (hsz : sizesOK c) :
    ∃ out, callStep bd w (.par f) (some h) c = .ok (w, some h, out) ∧ out.ret = some 0 ∧ out.data = [] :=
  invalid_arguments bd w _ h c hwf hbad hsz

/-! ## C15: life cycle -/

/-- in every reachable state the live contexts are exactly the ones owned by an object, each by
exactly one: nothing is leaked, nothing is shared -/
theorem C15_balanced (bd : Build) (hg : Good bd) (s : Sys) (hr : Reachable bd s) (id : Nat) :
    (∃ a, s.w.heap[id]? = some a ∧ a.live = true) ↔ ∃ (j : Nat) (o : Obj), s.objs[j]? = some o ∧ o.h.ctx = .ptr id := by
  have hinv := reachable_inv bd hg s hr
  constructor
  · rintro ⟨a, ha, hl⟩; exact hinv.noleak id a ha hl
  · rintro ⟨j, o, ho, hc⟩
    obtain ⟨a, ha, hl, _⟩ := hinv.owned_lt ho hc
    exact ⟨a, ha, hl⟩

theorem C15_single_owner (bd : Build) (hg : Good bd) (s : Sys) (hr : Reachable bd s) (i j : Nat) (oi oj : Obj) (id : Nat)
    (hi : s.objs[i]? = some oi) (hj : s.objs[j]? = some oj) (ci : oi.h.ctx = .ptr id) (cj : oj.h.ctx = .ptr id) : i = j :=
  (reachable_inv bd hg s hr).inj i j oi oj id hi hj ci cj

/-- once every object has been cleaned up, no context is live -/
theorem C15_all_released (bd : Build) (hg : Good bd) (s : Sys) (hr : Reachable bd s)
    (hclean : ∀ (j : Nat) (o : Obj), s.objs[j]? = some o → ∀ id, o.h.ctx ≠ .ptr id) (id : Nat) (a : Alloc) (ha : s.w.heap[id]? = some a) :
    a.live = false := by
  cases hl : a.live with
  | false => rfl
  | true =>
    obtain ⟨j, o, ho, hc⟩ := (reachable_inv bd hg s hr).noleak id a ha hl
    exact absurd hc (hclean j o ho id)

/-- `cleanup` releases the object's context (exactly that one) and leaves the object inert;
on an object that owns nothing it does nothing to the heap -/
theorem C15_cleanup (bd : Build) (hg : Good bd) (s : Sys) (hinv : Inv s) (j : Nat) (o : Obj) (ho : s.objs[j]? = some o) (hr : o.ready = true) :
    ∃ s' o', stepSys bd s (.call o.kind (some j) .cleanup) = .ok (s', {}) ∧ s'.objs[j]? = some o' ∧ Inert o'.h ∧
      (∀ id, o.h.ctx = .ptr id → ∃ a', s'.w.heap[id]? = some a' ∧ a'.live = false ∧ a'.zeroAtFree = true) ∧
      (∀ id, o.h.ctx ≠ .ptr id → s'.w.heap[id]? = s.w.heap[id]?) := by
  obtain ⟨w', h', hcall, hin, hrel, hfr⟩ := cleanup_ok bd hg.wipe s.w o.kind o.h (hinv.wf j o ho hr)
  exact ⟨_, _, step_call_eq ho hcall, updObjs_self ho _ _, hin, hrel, hfr⟩

/-- cleanup is idempotent: on an inert object it changes nothing in the world -/
theorem C15_cleanup_idempotent (bd : Build) (s : Sys) (j : Nat) (o : Obj) (ho : s.objs[j]? = some o) (hin : Inert o.h) :
    ∃ s', stepSys bd s (.call o.kind (some j) .cleanup) = .ok (s', {}) ∧ s'.w = s.w ∧ ∃ o', s'.objs[j]? = some o' ∧ Inert o'.h := by
  obtain ⟨h', hcall, hin'⟩ := cleanup_inert bd s.w o.kind o.h hin
  exact ⟨_, step_call_eq ho hcall, rfl, _, updObjs_self ho _ _, hin'⟩

/-! ## C16: allocation failure inside `init` -/

/-- if the allocation fails, `init` returns 0, the heap is exactly what it was (nothing leaked),
and the object is left zeroed - whatever its memory held before the call -/
theorem C16_alloc_failure (bd : Build) (hg : Good bd) (s : Sys) (j : Nat) (o : Obj) (p : Probes) (ho : s.objs[j]? = some o)
    (hf : s.w.failAt = some s.w.allocCount) :
    ∃ s' o', stepSys bd s (.call o.kind (some j) (.init p)) = .ok (s', { ret := some 0 }) ∧ s'.w.heap = s.w.heap ∧
      s'.objs[j]? = some o' ∧ o'.h = zeroHandle ∧ o'.ready = true ∧ Inert o'.h := by
  obtain ⟨w', hcall, hheap⟩ := init_fail bd hg.clears s.w o.kind o.h p hf
  exact ⟨_, _, step_call_eq ho hcall, hheap, updObjs_self ho _ _, rfl, Bool.or_true _, inert_zero⟩

/-- otherwise `init` returns 1 and the object owns a fresh live context -/
theorem C16_init_success (bd : Build) (hg : Good bd) (s : Sys) (j : Nat) (o : Obj) (p : Probes) (ho : s.objs[j]? = some o)
    (hf : s.w.failAt ≠ some s.w.allocCount) :
    ∃ s' o' a, stepSys bd s (.call o.kind (some j) (.init p)) = .ok (s', { ret := some 1 }) ∧ s'.w.heap = s.w.heap ++ [a] ∧ a.live = true ∧
      s'.objs[j]? = some o' ∧ o'.h.ctx = .ptr s.w.heap.length ∧ o'.ready = true := by
  obtain ⟨w', a, h', hcall, hp, hheap, hl, -⟩ := init_ok bd s.w o.kind o.h p hf
  exact ⟨_, _, a, step_call_eq ho hcall, hheap, hl, updObjs_self ho _ _, hp, Bool.or_true _⟩

/-- after a failed `init` every other call reports failure and `cleanup` is safe: the object is
inert (`C14_inert_object`, `C15_cleanup_idempotent`), in every reachable state (`C14_no_fault`) -/
theorem C16_then_inert (bd : Build) (s : Sys) (j : Nat) (o : Obj) (c : Call) (ho : s.objs[j]? = some o) (hz : o.h = zeroHandle)
    (hi : c.isInit = false) :
    ∃ s' out, stepSys bd s (.call o.kind (some j) c) = .ok (s', out) ∧ s'.w = s.w ∧ (out.ret = none ∨ out.ret = some 0) := by
  obtain ⟨s', out, h1, h2, h3, -⟩ := C14_inert_object bd s j o c ho (hz ▸ inert_zero) hi
  exact ⟨s', out, h1, h2, h3⟩

/-! ## C17: every freed block was wiped -/

/-- in every reachable state, every block that has been handed back to the allocator was all-zero
at that moment (the cleanse covers at least the bytes requested for the context:
`factsSizes_wipeOK`, from the sizes in the current source) -/
theorem C17_wiped_before_free (bd : Build) (hg : Good bd) (s : Sys) (hr : Reachable bd s) (id : Nat) (a : Alloc)
    (ha : s.w.heap[id]? = some a) (hl : a.live = false) : a.zeroAtFree = true :=
  (reachable_inv bd hg s hr).wiped id a ha hl

/-- the build the checks run against: the facts read off the current source satisfy `Good` -/
theorem C17_source_sizes (t : Tag) : Good (goodBuild t) := goodBuild_good t

/-! ## the hypotheses are satisfiable: a concrete history -/

example : ∃ s outs, runSys (goodBuild .c64le) {}
    [.declare (.ctr .s128) { vtable := .garbage, ctx := .garbage }, .call (.ctr .s128) (some 0) (.init ⟨true, true⟩),
     .call (.ctr .s128) (some 0) .cleanup] = .ok (s, outs) := by
  apply C14_no_fault _ (goodBuild_good _)
  refine .cons _ _ _ (by intro id; simp) fun s1 _ h1 => ?_
  cases h1
  refine .cons _ _ _ ⟨_, rfl, rfl, by intro id; simp⟩ fun s2 _ h2 => ?_
  simp [stepSys, callStep, ctrInit, World.alloc, bind, Except.bind, pure, Except.pure] at h2
  obtain ⟨rfl, -⟩ := h2
  refine .cons _ _ _ ⟨_, rfl, rfl, by simp [Call.isInit]⟩ fun s3 _ _ => .nil _

end SkinnyVerif.Properties
