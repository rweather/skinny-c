/-
C05 / C06, vector CTR back ends: the keystream batch.

`skinny128_ecb_encrypt_four` (128-bit vectors), `skinny128_ecb_encrypt_eight` (256-bit vectors) and
`skinny64_ecb_encrypt_eight`, assembled from the pieces translated from the three vector CTR files, turn the
strided counter image into the keystream buffer: the block written at position `j` is the scalar block
encryption (32-bit-word configuration, hence the specification by C01) of the counter block held by column `j`,
and the big-endian value of that block is the column value that the lane increments of `C05V` add to.
So one batch of keystream is `E(c_0) ‖ E(c_1) ‖ …` for the lane counters `c_j` - what the "B-lane" state machine
of `Properties/C06.lean` assumes of the vector code.  The 32-bit-word round body (`skinny128_sbox_two`) and the
byte-wise store path of the two Skinny-128 files compute the same batch (C12).
-/
import SkinnyVerif.Lemmas.VecCtr
import SkinnyVerif.Properties.C07V
import SkinnyVerif.Properties.C05V

namespace SkinnyVerif.Properties
open SkinnyVerif SkinnyVerif.Gen SkinnyVerif.Impl SkinnyVerif.Lemmas SkinnyVerif.Spec.Skinny

/-- `skinny128_ecb_encrypt_four` on the strided image of four lane counters -/
def ctrEnc4 (sched : List (BitVec 64)) (img : BitVec 512) : BitVec 512 :=
  let rows := sched.foldl (fun rws sk => mapRows (fun t => v128c_enc_round t.1 t.2.1 t.2.2.1 t.2.2.2 sk) rws) (v128c_enc_load img)
  v128c_enc_store rows.1 rows.2.1 rows.2.2.1 rows.2.2.2
/-- the same function as compiled for 32-bit words without unaligned access -/
def ctrEnc4' (sched : List (BitVec 64)) (img : BitVec 512) : BitVec 512 :=
  let rows := sched.foldl (fun rws sk => mapRows (fun t => v128c_enc_round_w32 t.1 t.2.1 t.2.2.1 t.2.2.2 sk) rws) (v128c_enc_load img)
  v128c_enc_store_u0 rows.1 rows.2.1 rows.2.2.1 rows.2.2.2

def ctrEnc8 (sched : List (BitVec 64)) (img : BitVec 1024) : BitVec 1024 :=
  let rows := sched.foldl (fun rws sk => mapRows8 (fun t => v256c_enc_round t.1 t.2.1 t.2.2.1 t.2.2.2 sk) rws) (v256c_enc_load img)
  v256c_enc_store rows.1 rows.2.1 rows.2.2.1 rows.2.2.2
def ctrEnc8' (sched : List (BitVec 64)) (img : BitVec 1024) : BitVec 1024 :=
  let rows := sched.foldl (fun rws sk => mapRows8 (fun t => v256c_enc_round_w32 t.1 t.2.1 t.2.2.1 t.2.2.2 sk) rws) (v256c_enc_load img)
  v256c_enc_store_u0 rows.1 rows.2.1 rows.2.2.1 rows.2.2.2

def ctrEnc8h (sched : List (BitVec 32)) (img : BitVec 512) : BitVec 512 :=
  let rows := sched.foldl (fun rws sk => mapRowsH (fun t => v64c_enc_round t.1 t.2.1 t.2.2.1 t.2.2.2 sk) rws) (v64c_enc_load img)
  v64c_enc_store rows.1 rows.2.1 rows.2.2.1 rows.2.2.2

/-! Instances of `batchG_block` again, the input block of lane `j` being column `j` of the image; the primed variants
have the round body of the 32-bit-word build and the byte-wise store. -/

theorem ctrEnc4_block (sched : List (BitVec 64)) (img : BitVec 512) (j : Nat) (hj : j < 4) :
    (ctrEnc4 sched img).extractLsb' (128 * j) 128 = sched.foldl (fun st sk => skinny128_ecb_encrypt_round_32le st sk) (v128c_column img j) ∧
    (ctrEnc4' sched img).extractLsb' (128 * j) 128 = sched.foldl (fun st sk => skinny128_ecb_encrypt_round_32le st sk) (v128c_column img j) :=
  have hl := fun x j (_ : j < 4) => congrArg (fun rows => packT (laneRows rows j)) (v128c_enc_load_eq x)
  ⟨batchG_block (r := 32) ⟨by decide, hl, vEnc128_scalar .c128, store_of_untransposeG packT_lanes (v128p_store_eq .ctr)⟩ sched img j hj,
   batchG_block (r := 32) ⟨by decide, hl, vEnc128_scalar .c128w32, store_of_untransposeG packT_lanes (v128p_store_u0_eq .ctr)⟩
     sched img j hj⟩

theorem ctrEnc8_block (sched : List (BitVec 64)) (img : BitVec 1024) (j : Nat) (hj : j < 8) :
    (ctrEnc8 sched img).extractLsb' (128 * j) 128 = sched.foldl (fun st sk => skinny128_ecb_encrypt_round_32le st sk) (v256c_column img j) ∧
    (ctrEnc8' sched img).extractLsb' (128 * j) 128 = sched.foldl (fun st sk => skinny128_ecb_encrypt_round_32le st sk) (v256c_column img j) :=
  have hl := fun x j (_ : j < 8) => congrArg (fun rows => packT (laneRows8 rows j)) (v256c_enc_load_eq x)
  ⟨batchG_block (r := 32) ⟨by decide, hl, vEnc128_scalar .c256, store_of_untransposeG packT_lanes (v256p_store_eq .ctr)⟩ sched img j hj,
   batchG_block (r := 32) ⟨by decide, hl, vEnc128_scalar .c256w32, store_of_untransposeG packT_lanes (v256p_store_u0_eq .ctr)⟩
     sched img j hj⟩

theorem ctrEnc8h_block (sched : List (BitVec 32)) (img : BitVec 512) (j : Nat) (hj : j < 8) :
    (ctrEnc8h sched img).extractLsb' (64 * j) 64 = sched.foldl (fun st sk => skinny64_ecb_encrypt_round_32le st sk) (v64c_column img j) :=
  batchG_block (r := 16) ⟨by decide, fun x j _ => congrArg (fun rows => packTh (laneRowsH rows j)) (v64c_enc_load_eq x),
    vEnc64_scalar .c, store_of_untransposeG packTh_lanes (v64p_store_eq .ctr)⟩ sched img j hj

/-- **keystream batch, Skinny-128 on 128-bit vectors**: block `j` of the batch is `skinny128_ecb_encrypt` of the counter
block in column `j`; that block's big-endian value is the column value of `C05_v128c_increment` -/
theorem C06_vec128_keystream (ks : KeySched 64) (img : BitVec 512) (j : Nat) (hj : j < 4) (blk : Bytes)
    (hblk : image 128 blk = v128c_column img j) :
    bytesOf 16 ((ctrEnc4 (schedUp ks) img).extractLsb' (128 * j) 128) = ecbEncrypt (ops128 .c32le) p128 ks blk ∧
    bytesOf 16 ((ctrEnc4' (schedUp ks) img).extractLsb' (128 * j) 128) = ecbEncrypt (ops128 .c32le) p128 ks blk ∧
    columnValue (pos128 j) img = valLE ((List.range 16).map (fun t => (lane 8 (15 - t) (v128c_column img j)).toNat)) := by
  have h := ctrEnc4_block (schedUp ks) img j hj
  have e := ecbEncrypt_fold (opsG128 .c32le) p128 ks blk
  rw [hblk] at e
  exact ⟨(congrArg (bytesOf 16) h.1).trans e, (congrArg (bytesOf 16) h.2).trans e, v128c_column_value img j hj⟩

theorem C06_vec256_keystream (ks : KeySched 64) (img : BitVec 1024) (j : Nat) (hj : j < 8) (blk : Bytes)
    (hblk : image 128 blk = v256c_column img j) :
    bytesOf 16 ((ctrEnc8 (schedUp ks) img).extractLsb' (128 * j) 128) = ecbEncrypt (ops128 .c32le) p128 ks blk ∧
    bytesOf 16 ((ctrEnc8' (schedUp ks) img).extractLsb' (128 * j) 128) = ecbEncrypt (ops128 .c32le) p128 ks blk ∧
    columnValue (pos256 j) img = valLE ((List.range 16).map (fun t => (lane 8 (15 - t) (v256c_column img j)).toNat)) := by
  have h := ctrEnc8_block (schedUp ks) img j hj
  have e := ecbEncrypt_fold (opsG128 .c32le) p128 ks blk
  rw [hblk] at e
  exact ⟨(congrArg (bytesOf 16) h.1).trans e, (congrArg (bytesOf 16) h.2).trans e, v256c_column_value img j hj⟩

theorem C06_vec64_keystream (ks : KeySched 32) (img : BitVec 512) (j : Nat) (hj : j < 8) (blk : Bytes)
    (hblk : image 64 blk = v64c_column img j) :
    bytesOf 8 ((ctrEnc8h (schedUp64 ks) img).extractLsb' (64 * j) 64) = ecbEncrypt (ops64 .c32le) p64 ks blk ∧
    columnValue (pos64 j) img = valLE ((List.range 8).map (fun t => (lane 8 (7 - t) (v64c_column img j)).toNat)) := by
  have e := ecbEncrypt_fold (opsG64 .c32le) p64 ks blk
  rw [hblk] at e
  exact ⟨(congrArg (bytesOf 8) (ctrEnc8h_block _ _ j hj)).trans e, v64c_column_value img j hj⟩

end SkinnyVerif.Properties
