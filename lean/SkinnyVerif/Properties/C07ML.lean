/-
C07, Mantis: the loops of `mantis_parallel_ecb_crypt` (whole batches of 64 bytes of data *and of tweaks* through the
vector back end, the rest block by block through `mantis_ecb_crypt_tweaked`) compute, for every byte count, block `i`
under the `i`-th tweak - given that the batch function does so on one batch, which `C07_mantis_vec128_block` shows for the
translated vector code.  `mantisBatched` is a hand model of the two `while` loops (hash + correspondence tie).
-/
import SkinnyVerif.Properties.C07M
import SkinnyVerif.Properties.C07L

namespace SkinnyVerif.Properties
open SkinnyVerif SkinnyVerif.Gen SkinnyVerif.Impl SkinnyVerif.Api SkinnyVerif.Lemmas

def mantisBatched (G : Bytes → Bytes → Bytes) (o : MantisOps) (ks : MantisKey) : Nat → Bytes → Bytes → Bytes
  | 0, _, _ => []
  | fuel + 1, tw, inp =>
    if 64 ≤ inp.length then G (tw.take 64) (inp.take 64) ++ mantisBatched G o ks fuel (tw.drop 64) (inp.drop 64)
    else mantisParBlocks o ks (inp.length + 1) tw inp

theorem mpb_fuel (o : MantisOps) (ks : MantisKey) (f f' : Nat) (tw inp : Bytes) (h : inp.length < f) (h' : inp.length < f') :
    mantisParBlocks o ks f tw inp = mantisParBlocks o ks f' tw inp := by
  fun_induction mantisParBlocks o ks f tw inp generalizing f' with
  | case1 => omega
  | case2 f tw inp hlt =>
    cases f' with
    | zero => rfl
    | succ f' => rw [mantisParBlocks, if_pos hlt]
  | case3 f tw inp hlt ih =>
    cases f' with
    | zero => omega
    | succ f' => rw [mantisParBlocks, if_neg hlt, ih f' (by rw [List.length_drop]; omega) (by rw [List.length_drop]; omega)]

/-- the first `B` blocks, each under its tweak, then the rest under the rest of the tweaks -/
theorem mpb_unroll (o : MantisOps) (ks : MantisKey) (B : Nat) (tw inp : Bytes) (h : B * 8 ≤ inp.length) :
    mantisParBlocks o ks (inp.length + 1) tw inp =
      ((List.range B).flatMap fun j => mantisCryptTweaked o ks ((tw.drop (8 * j)).take 8) ((inp.drop (8 * j)).take 8)) ++
        mantisParBlocks o ks ((inp.drop (B * 8)).length + 1) (tw.drop (B * 8)) (inp.drop (B * 8)) := by
  induction B generalizing tw inp with
  | zero => simp
  | succ n ih =>
    rw [Nat.succ_mul] at h
    rw [mantisParBlocks, if_neg (by omega), mpb_fuel o ks _ ((inp.drop 8).length + 1) _ _ (by rw [List.length_drop]; omega) (by omega),
      ih _ _ (by rw [List.length_drop]; omega), List.range_succ_eq_map, List.flatMap_cons, List.flatMap_map, List.append_assoc]
    simp only [Nat.mul_zero, List.drop_zero, List.drop_drop, Nat.succ_eq_add_one, Nat.mul_add, Nat.add_mul, Nat.mul_one, Nat.one_mul,
      Nat.add_comm 8]

/-- **the Mantis loops compute block `i` under tweak `i` for every byte count** -/
theorem mantisBatched_eq (G : Bytes → Bytes → Bytes) (o : MantisOps) (ks : MantisKey)
    (hG : ∀ t c : Bytes, 64 ≤ c.length → G (t.take 64) (c.take 64) =
      (List.range 8).flatMap fun j => mantisCryptTweaked o ks ((t.drop (8 * j)).take 8) ((c.drop (8 * j)).take 8))
    (fuel : Nat) (tw inp : Bytes) (hf : inp.length < fuel) :
    mantisBatched G o ks fuel tw inp = mantisParBlocks o ks (inp.length + 1) tw inp := by
  induction fuel generalizing tw inp with
  | zero => omega
  | succ n ih =>
    rw [mantisBatched]
    by_cases hp : 64 ≤ inp.length
    · rw [if_pos hp, hG tw inp hp, ih _ _ (by rw [List.length_drop]; omega), mpb_unroll o ks 8 tw inp hp]
    · rw [if_neg hp]

/-- the batch function of the Mantis vector back end on 64 bytes of tweaks and 64 bytes of data -/
def vecMantisBytes (ks : MantisKey) (tw64 chunk : Bytes) : Bytes :=
  bytesOf 64 (vecMantis8 ks.image ks.rounds (image 512 chunk) (image 512 tw64))

theorem take_drop_take (l : Bytes) (j : Nat) (hj : j < 8) : ((l.take 64).drop (8 * j)).take 8 = (l.drop (8 * j)).take 8 := by
  rw [List.drop_take, List.take_take]
  congr 1
  omega

theorem vecMantis_batch (ks : MantisKey) (t c : Bytes) :
    vecMantisBytes ks (t.take 64) (c.take 64) =
      (List.range 8).flatMap fun j => mantisCryptTweaked (opsMantis .c64le) ks ((t.drop (8 * j)).take 8) ((c.drop (8 * j)).take 8) := by
  rw [vecMantisBytes, bytesOf_blocks 8 8, List.flatMap_def, List.flatMap_def]
  congr 1
  apply List.map_congr_left
  intro j hj
  have hj := List.mem_range.mp hj
  rw [← take_drop_take t j hj, ← take_drop_take c j hj]
  exact C07_mantis_vec128_block ks _ _ j hj _ _ (image_block_gen 512 8 _ j (by omega)) (image_block_gen 512 8 _ j (by omega))

/-- **Mantis parallel ECB through the 128-bit vector back end, every byte count and every tweak array** -/
theorem C07_mantis_whole_buffer (ks : MantisKey) (tw inp : Bytes) :
    mantisBatched (vecMantisBytes ks) (opsMantis .c64le) ks (inp.length + 1) tw inp =
      mantisParBlocks (opsMantis .c64le) ks (inp.length + 1) tw inp :=
  mantisBatched_eq _ _ ks (fun t c _ => vecMantis_batch ks t c) _ tw inp (by omega)

end SkinnyVerif.Properties
