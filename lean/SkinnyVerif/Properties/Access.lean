/-
Every public call other than `init` / `cleanup` has one shape.  It looks at the handle and the arguments and decides to fault,
to return a default, or to go on; going on, a null context returns the default, any other pointer is dereferenced, a function
of the context's value yields a result and perhaps a new value, and the new value is stored in the same context.
`access` is that shape.  Each `World` function is an instance (`*_eq`), and what C14-C18 need is proved of `access` once:
on a usable handle it is total (`access_wf`), and it neither reads nor writes another context (`access_frame`).
-/
import SkinnyVerif.Api.Machine

namespace SkinnyVerif.Properties
open SkinnyVerif SkinnyVerif.Impl SkinnyVerif.Api

/-- a usable handle: no garbage fields; an owned context is live and of the right type -/
def WFH (w : World) (k : Kind) (h : Handle) : Prop :=
  h.vtable ≠ .garbage ∧ h.ctx ≠ .garbage ∧
  ∀ id, h.ctx = .ptr id → ∃ a, w.heap[id]? = some a ∧ a.live = true ∧ a.val.shape = k.shape ∧
    (∀ f, k = .ctr f → ∃ be, h.vtable = .be be)

/-- what a call makes of its handle and arguments alone: a fault, `none` (return the default), or the function it applies to
the value of its context, giving the value to store (if any) and the result -/
abbrev Act (ρ : Type) := M (Option (CtxVal → M (Option CtxVal × ρ)))

/-- the world after a call that had `p` as its context pointer has stored (or not) -/
def store (w : World) (p : PtrVal) : Option CtxVal → World
  | none => w
  | some v => match p with
    | .ptr id => w.setVal id v
    | _ => w

def access {ρ : Type} (w : World) (p : PtrVal) (dflt : ρ) (act : Act ρ) : M (World × ρ) :=
  act >>= fun
    | none => pure (w, dflt)
    | some g =>
      match p with
      | .null => pure (w, dflt)
      | p => w.deref p >>= fun ia => g ia.2.val >>= fun x => pure (store w (.ptr ia.1) x.1, x.2)

/-- the usual act: the call goes through the vtable `vt` as `dispatch` does (the parallel-ECB functions of `Api/World.lean`
do not look at the vtable and behave as with a valid one), then checks its arguments -/
def gate {ρ : Type} (vt : VtVal) (rejected : Prop) [Decidable rejected] (g : Backend → CtxVal → M (Option CtxVal × ρ)) : Act ρ :=
  match vt with
  | .null => .ok none
  | .garbage => .error .wildFree
  | .be b => .ok (if rejected then none else some (g b))

/-- the convention of the key setters: a result of 0 means nothing is stored -/
def keep : Nat × CtxVal → Option CtxVal × Nat
  | (0, _) => (none, 0)
  | (r + 1, v) => (some v, r + 1)

/-- a function of the counter state of a CTR context, applied inside the context -/
def onStream {ρ : Type} (F : CtrState → CtrState × ρ) : CtxVal → M (Option CtxVal × ρ)
  | .skinnyCtr h kt st => pure (some (.skinnyCtr h kt (F st).1), (F st).2)
  | .mantisCtr ks st => pure (some (.mantisCtr ks (F st).1), (F st).2)
  | _ => .error .wildFree

variable {ρ : Type} {w : World} {k : Kind} {hd : Handle} {v : CtxVal} {x : Nat × CtxVal}

theorem store_null (w : World) (v? : Option CtxVal) : store w .null v? = w := by
  cases v? <;> rfl

theorem store_keep (w : World) (id : Nat) (x : Nat × CtxVal) :
    (store w (.ptr id) (keep x).1, (keep x).2) = (if x.1 = 0 then w else w.setVal id x.2, x.1) := by
  obtain ⟨r, v⟩ := x
  cases r <;> rfl

theorem keep_some (h : (keep x).1 = some v) : v = x.2 ∧ (keep x).2 ≠ 0 := by
  obtain ⟨r, u⟩ := x
  cases r <;> cases h
  exact ⟨rfl, Nat.succ_ne_zero _⟩

theorem keep_zero (h : x.1 = 0) : keep x = (none, 0) := by
  obtain ⟨r, u⟩ := x
  cases h
  rfl

theorem onStream_ok (F : CtrState → CtrState × ρ) {f : Family} (hv : v.shape = (Kind.ctr f).shape) :
    ∃ v' st, onStream F v = .ok (some v', (F st).2) ∧ v'.shape = v.shape := by
  cases v with
  | skinnyCtr h kt st => exact ⟨_, st, rfl, rfl⟩
  | mantisCtr ks st => exact ⟨_, st, rfl, rfl⟩
  | _ => cases f <;> cases hv

theorem bind_map {α β γ : Type} (x : M α) (φ : α → β) (K : β → M γ) : (x.map φ >>= K) = x >>= fun a => K (φ a) := by
  cases x <;> rfl

theorem bind_ok {α β : Type} {x : M α} {K : α → M β} {b : β} : (x >>= K) = .ok b ↔ ∃ a, x = .ok a ∧ K a = .ok b := by
  cases x with
  | error e => exact ⟨nofun, nofun⟩
  | ok a => exact ⟨fun h => ⟨a, rfl, h⟩, fun ⟨_, h, h'⟩ => by cases h; exact h'⟩

/-! ## what an access does -/

theorem deref_ok {id : Nat} {a : Alloc} (h1 : w.heap[id]? = some a) (h2 : a.live = true) : w.deref (.ptr id) = .ok (id, a) := by
  simp [World.deref, h1, h2]

theorem deref_fst {id : Nat} {ia : Nat × Alloc} (h : w.deref (.ptr id) = .ok ia) : ia.1 = id := by
  simp only [World.deref] at h
  split at h <;> try cases h
  split at h <;> cases h
  rfl

theorem deref_frame (w : World) (j : Nat) (u : CtxVal) (p : PtrVal) (hav : ∀ id, p = .ptr id → id ≠ j) :
    (w.setVal j u).deref p = w.deref p := by
  cases p with
  | null => rfl
  | garbage => rfl
  | ptr id =>
    simp only [World.deref]
    rw [show (w.setVal j u).heap[id]? = w.heap[id]? from List.getElem?_modify_ne _ _ (hav id rfl).symm]

/-- updates of two different contexts commute -/
theorem setVal_comm (w : World) (i j : Nat) (u v : CtxVal) (hij : i ≠ j) :
    (w.setVal i u).setVal j v = (w.setVal j v).setVal i u := by
  simp only [World.setVal]
  congr 1
  apply List.ext_getElem?
  intro k
  simp only [List.getElem?_modify]
  cases w.heap[k]? with
  | none => rfl
  | some a =>
    by_cases h1 : i = k <;> by_cases h2 : j = k <;> simp [h1, h2]
    · exact absurd (h1.trans h2.symm) hij

/-- stores through pointers to different contexts commute -/
theorem store_comm (w : World) {p q : PtrVal} (v u : Option CtxVal) (h : ∀ i, p = .ptr i → q ≠ .ptr i) :
    store (store w p v) q u = store (store w q u) p v := by
  cases v with
  | none => rfl
  | some v =>
    cases u with
    | none => rfl
    | some u =>
      cases p with
      | null => rfl
      | garbage => rfl
      | ptr i =>
        cases q with
        | null => rfl
        | garbage => rfl
        | ptr j => exact setVal_comm w i j v u fun e => h i rfl (e ▸ rfl)

theorem deref_store (w : World) (p q : PtrVal) (u? : Option CtxVal) (hav : ∀ id, p = .ptr id → q ≠ .ptr id) :
    (store w q u?).deref p = w.deref p := by
  cases u? with
  | none => rfl
  | some u =>
    cases q with
    | null => rfl
    | garbage => rfl
    | ptr j => exact deref_frame w j u p fun id hid e => hav id hid (e ▸ rfl)

/-- `F` neither reads nor writes a context other than the one behind `p`: with a store into another context beforehand it
does exactly the same and leaves that context as stored -/
structure Frame {α : Type} (p : PtrVal) (F : World → M (World × α)) : Prop where
  eq : ∀ w q u?, (∀ id, p = .ptr id → q ≠ .ptr id) → F (store w q u?) = (F w).map fun r => (store r.1 q u?, r.2)

theorem access_frame (p : PtrVal) (dflt : ρ) (act : Act ρ) : Frame p fun w => access w p dflt act := by
  refine ⟨fun w q u? hav => ?_⟩
  unfold access
  cases act with
  | error e => rfl
  | ok o =>
    cases o with
    | none => rfl
    | some g =>
      cases p with
      | null => rfl
      | garbage => rfl
      | ptr id =>
        show ((store w q u?).deref (.ptr id) >>= _) = Except.map _ (w.deref (.ptr id) >>= _)
        rw [deref_store w _ q u? hav]
        cases hd : w.deref (.ptr id) with
        | error e => rfl
        | ok ia =>
          cases deref_fst hd
          show (g ia.2.val >>= _) = Except.map _ (g ia.2.val >>= _)
          cases g ia.2.val with
          | error e => rfl
          | ok x => exact congrArg (fun w' => Except.ok (w', x.2)) (store_comm w u? x.1 fun i hi e => hav i e hi)

/-- **on a usable handle an access is total**, it stores into the handle's own context if at all, and its outcome has every
property `Q` that the default has and that `g` establishes on values of the object's type -/
theorem access_wf (hwf : WFH w k hd) {vt : VtVal} (hvt : vt ≠ .garbage) {dflt : ρ} {rejected : Prop} [Decidable rejected]
    {g : Backend → CtxVal → M (Option CtxVal × ρ)} {Q : Option CtxVal × ρ → Prop} (h0 : Q (none, dflt))
    (hg : ¬ rejected → ∀ b v, v.shape = k.shape → ∃ x, g b v = .ok x ∧ Q x) :
    ∃ x, access w hd.ctx dflt (gate vt rejected g) = .ok (store w hd.ctx x.1, x.2) ∧ Q x ∧ (hd.ctx = .null → x = (none, dflt)) := by
  unfold gate
  cases vt with
  | garbage => exact absurd rfl hvt
  | null => exact ⟨_, rfl, h0, fun _ => rfl⟩
  | be b =>
    dsimp only
    by_cases hr : rejected
    · rw [if_pos hr]; exact ⟨_, rfl, h0, fun _ => rfl⟩
    · rw [if_neg hr]
      cases hcx : hd.ctx with
      | garbage => exact absurd hcx hwf.2.1
      | null => exact ⟨_, rfl, h0, fun _ => rfl⟩
      | ptr id =>
        obtain ⟨a, ha, hl, hs, -⟩ := hwf.2.2 id hcx
        obtain ⟨x, hx, hq⟩ := hg hr b a.val hs
        refine ⟨x, ?_, hq, nofun⟩
        simp [access, deref_ok ha hl, hx, bind, Except.bind, pure, Except.pure]

/-- the body all the `World` functions share past their gate, as an access: a null test, then `deref` and a continuation -/
theorem access_deref (w : World) (p : PtrVal) (dflt : ρ) (g : CtxVal → M (Option CtxVal × ρ)) (K : Nat × Alloc → M (World × ρ))
    (hK : ∀ ia, K ia = g ia.2.val >>= fun x => pure (store w (.ptr ia.1) x.1, x.2)) :
    (match p with | .null => pure (w, dflt) | p => w.deref p >>= K) = access w p dflt (.ok (some g)) := by
  cases p with
  | null => rfl
  | garbage => rfl
  | ptr id => exact congrArg (w.deref (.ptr id) >>= ·) (funext hK)

/-- the same for a function whose result has another form (no world, or nothing but the world); `φ` completes it -/
theorem access_deref_map {α : Type} (w : World) (p : PtrVal) (dflt : ρ) (g : CtxVal → M (Option CtxVal × ρ)) (φ : α → World × ρ)
    (d : α) (K : Nat × Alloc → M α) (hd : φ d = (w, dflt))
    (hK : ∀ ia, (K ia).map φ = g ia.2.val >>= fun x => pure (store w (.ptr ia.1) x.1, x.2)) :
    (match p with | .null => pure d | p => w.deref p >>= K).map φ = access w p dflt (.ok (some g)) := by
  cases p with
  | null => exact congrArg Except.ok hd
  | garbage => rfl
  | ptr id =>
    show (w.deref (.ptr id) >>= K).map φ = (w.deref (.ptr id) >>= _)
    cases w.deref (.ptr id) with
    | error e => rfl
    | ok ia => exact hK ia

/-! ## the `World` functions as accesses

Each proof follows the function's own case distinctions (vtable, argument check); past them `access_deref` applies, and the
continuations agree case by case on the value of the context. -/

theorem ctrUpdate_eq (hd : Handle) (argNull needArg : Bool) (upd : Backend → CtxVal → M (Nat × CtxVal)) (w : World) :
    ctrUpdate w (some hd) argNull needArg upd =
      access w hd.ctx 0 (gate hd.vtable (needArg && argNull) fun b v => (upd b v).map keep) := by
  obtain ⟨vt, p, _⟩ := hd
  unfold ctrUpdate dispatch gate
  cases vt with
  | null => rfl
  | garbage => rfl
  | be b =>
    cases needArg && argNull with
    | true => rfl
    | false =>
      refine access_deref w p 0 _ _ fun ⟨id', a⟩ => ?_
      show (upd b a.val >>= _) = (Except.map _ (upd b a.val) >>= _)
      cases upd b a.val with
      | error e => rfl
      | ok x =>
        obtain ⟨r, v⟩ := x
        cases r <;> rfl

theorem ctrSetCounter_eq (f : Family) (hd : Handle) (counter : Option Bytes) (size : Nat) (w : World) :
    ctrSetCounter f w (some hd) counter size =
      access w hd.ctx 0 (gate hd.vtable (size > f.bs) fun b => onStream fun st => (st.setCounter f.bs (f.batch b) counter size, 1)) := by
  obtain ⟨vt, p, _⟩ := hd
  unfold ctrSetCounter dispatch gate
  cases vt with
  | null => rfl
  | garbage => rfl
  | be b =>
    show (if size > f.bs then _ else _) = access w p 0 (Except.ok (if size > f.bs then _ else _))
    by_cases hs : size > f.bs
    · rw [if_pos hs, if_pos hs]; rfl
    · rw [if_neg hs, if_neg hs]
      exact access_deref w p 0 _ _ fun ⟨id', _, _, v, _⟩ => by cases v <;> rfl

theorem ctrEncryptCall_eq (bd : Build) (f : Family) (hd : Handle) (input : Option Bytes) (w : World) :
    ctrEncryptCall bd f w (some hd) input =
      access w hd.ctx (0, []) (gate hd.vtable (input = none) fun b v => onStream (fun st =>
        let r := ctrEncrypt (ctrBlockFn bd v) f.bs (f.batch b) (b != .generic) st (input.getD []); (r.1, 1, r.2)) v) := by
  obtain ⟨vt, p, _⟩ := hd
  unfold ctrEncryptCall dispatch gate
  cases vt with
  | null => rfl
  | garbage => rfl
  | be b =>
    cases input with
    | none => rfl
    | some data => exact access_deref w p (0, []) _ _ fun ⟨id', _, _, v, _⟩ => by cases v <;> rfl

theorem skinnyParSetKey_eq (bd : Build) (f : Family) (hd : Handle) (key : Option Bytes) (size : Nat) (junk : UInt8) (w : World) :
    skinnyParSetKey bd f w (some hd) key size junk = access w hd.ctx 0 (gate (.be .generic) False fun _ v =>
      match f, v with
      | .s128, .skinnyKey 64 ks =>
        let r := setKey (ops128 bd.tag) guards128 p128 ks key size (junkOf 128 junk) (junkOf 128 junk)
        pure (keep (r.1, .skinnyKey 64 r.2))
      | .s64, .skinnyKey 32 ks =>
        let r := setKey (ops64 bd.tag) guards64 p64 ks key size (junkOf 64 junk) (junkOf 64 junk)
        pure (keep (r.1, .skinnyKey 32 r.2))
      | _, _ => .error .wildFree) := by
  refine access_deref w hd.ctx 0 _ _ fun ⟨id', _, _, v, _⟩ => ?_
  dsimp only
  split
  · exact congrArg Except.ok (store_keep w id' (_, _)).symm
  · exact congrArg Except.ok (store_keep w id' (_, _)).symm
  · simp [*]; rfl

theorem mantisParSetKey_eq (bd : Build) (hd : Handle) (key : Option Bytes) (size rounds : Nat) (mode : Int) (w : World) :
    mantisParSetKey bd w (some hd) key size rounds mode = access w hd.ctx 0 (gate (.be .generic) False fun _ v =>
      match v with
      | .mantisKey ks =>
        let r := mantisSetKey (opsMantis bd.tag) ks key size rounds mode
        pure (keep (r.1, .mantisKey r.2))
      | _ => .error .wildFree) := by
  refine access_deref w hd.ctx 0 _ _ fun ⟨id', _, _, v, _⟩ => ?_
  cases v with
  | mantisKey ks => exact congrArg Except.ok (store_keep w id' (_, _)).symm
  | _ => rfl

theorem mantisParSwap_eq (bd : Build) (hd : Handle) (w : World) :
    (mantisParSwap bd w (some hd)).map (·, ()) = access w hd.ctx () (gate (.be .generic) False fun _ v =>
      match v with
      | .mantisKey ks => pure (some (.mantisKey (mantisSwapModes (opsMantis bd.tag) ks)), ())
      | _ => .error .wildFree) :=
  access_deref_map w hd.ctx () _ _ w _ rfl fun ⟨_, _, _, v, _⟩ => by cases v <;> rfl

/-- the block-processing calls store nothing: the world comes back as it was -/
theorem skinnyParCrypt_eq (bd : Build) (f : Family) (enc : Bool) (hd : Handle) (input : Bytes) (w : World) :
    (skinnyParCrypt bd f enc w (some hd) input).map (Prod.mk w) = access w hd.ctx (0, []) (gate (.be .generic) (input.length % f.bs ≠ 0) fun _ v =>
      match f, v with
      | .s128, .skinnyKey 64 ks =>
        let F := if enc then ecbEncrypt (ops128 bd.tag) p128 ks else ecbDecrypt (ops128 bd.tag) p128 ks
        pure (none, 1, parallelBlocks F 16 (input.length + 1) input)
      | .s64, .skinnyKey 32 ks =>
        let F := if enc then ecbEncrypt (ops64 bd.tag) p64 ks else ecbDecrypt (ops64 bd.tag) p64 ks
        pure (none, 1, parallelBlocks F 8 (input.length + 1) input)
      | _, _ => .error .wildFree) := by
  unfold skinnyParCrypt gate
  -- the C function tests the context before the length; either way the answer is (0, [])
  by_cases hl : input.length % f.bs ≠ 0
  · simp only [if_pos hl]; cases hd.ctx <;> rfl
  · simp only [if_neg hl]
    refine access_deref_map w hd.ctx (0, []) _ _ (0, []) _ rfl fun ⟨_, _, _, v, _⟩ => ?_
    dsimp only
    split
    · rfl
    · rfl
    · simp [*]; rfl

theorem mantisParCrypt_eq (bd : Build) (hd : Handle) (tweaks input : Bytes) (w : World) :
    (mantisParCrypt bd w (some hd) tweaks input).map (Prod.mk w) = access w hd.ctx (0, []) (gate (.be .generic) (input.length % 8 ≠ 0) fun _ v =>
      match v with
      | .mantisKey ks => pure (none, 1, mantisParBlocks (opsMantis bd.tag) ks (input.length + 1) tweaks input)
      | _ => .error .wildFree) := by
  unfold mantisParCrypt gate
  by_cases hl : input.length % 8 ≠ 0
  · simp only [if_pos hl]; cases hd.ctx <;> rfl
  · simp only [if_neg hl]
    exact access_deref_map w hd.ctx (0, []) _ _ (0, []) _ rfl fun ⟨_, _, _, v, _⟩ => by cases v <;> rfl

end SkinnyVerif.Properties
