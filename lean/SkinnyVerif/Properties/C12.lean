/-
C12 -- build-configuration independence (scalar cipher code): whichever of the four
(word size x byte-order specialisation) configurations is compiled, key setup and single-block
processing return the same values for every input and every tweak history.  Corollary of
C01/C04/C10, which hold for every `Tag`; the obligations are real because each configuration
has its own generated definitions (64- vs 32-bit S-boxes and LFSRs, two `permute_tk`, different
load/store code), each proved against the same specification.
-/
import SkinnyVerif.Properties.C04

namespace SkinnyVerif.Properties
open SkinnyVerif SkinnyVerif.Spec.Skinny SkinnyVerif.Impl SkinnyVerif.Lemmas

section
variable {b h s : Nat} {V : Variant b h s} (ok : V.OK) {o1 o2 : SkinnyOps b h}
  (hc1 : OpsCorrectG V.A o1) (hc2 : OpsCorrectG V.A o2)
include ok hc1 hc2

/-- two correct tables of generated pieces, different junk and different prior schedule contents: same results -/
theorem setKey_indep (ks1 ks2 : KeySched h) (h1 : V.p.r3 ≤ ks1.sched.length) (h2 : V.p.r3 ≤ ks2.sched.length)
    (key : Bytes) (size : Nat) (hsz : size < 2 ^ 32) (hkey : size ≤ key.length ∨ size > 3 * V.p.bs)
    (j2 j3 j2' j3' : BitVec b) (blk : Bytes) :
    let r1 := setKey o1 V.g V.p ks1 (some key) size j2 j3
    let r2 := setKey o2 V.g V.p ks2 (some key) size j2' j3'
    r1.1 = r2.1 ∧ (r1.1 = 1 → ecbEncrypt o1 V.p r1.2 blk = ecbEncrypt o2 V.p r2.2 blk ∧
                             ecbDecrypt o1 V.p r1.2 blk = ecbDecrypt o2 V.p r2.2 blk) := by
  intro r1 r2
  obtain ⟨a1, b1, _, d1⟩ := setKey_spec ok hc1 ks1 h1 key size hsz hkey j2 j3
  obtain ⟨a2, b2, _, d2⟩ := setKey_spec ok hc2 ks2 h2 key size hsz hkey j2' j3'
  have hret : r1.1 = r2.1 := by
    by_cases hin : V.p.bs ≤ size ∧ size ≤ 3 * V.p.bs
    · exact (a1.mpr hin).trans (a2.mpr hin).symm
    · exact (b1.resolve_right (mt a1.mp hin)).trans (b2.resolve_right (mt a2.mp hin)).symm
  refine ⟨hret, fun hr1 => ?_⟩
  have e1 := d1 hr1 blk
  have e2 := d2 (hret ▸ hr1) blk
  exact ⟨e1.1.trans e2.1.symm, e1.2.trans e2.2.symm⟩

theorem tweaked_indep (tk1 tk2 : TweakedKey h) (h1 : V.p.r3 ≤ tk1.ks.sched.length) (h2 : V.p.r3 ≤ tk2.ks.sched.length)
    (key : Bytes) (size : Nat) (hs1 : V.p.bs ≤ size) (hs2 : size ≤ 2 * V.p.bs) (hkey : size ≤ key.length)
    (j2 j3 j2' j3' : BitVec b) (hist : List TweakArg) (hv : ∀ a ∈ hist, validTweak V.p.bs a) (blk : Bytes) :
    ecbEncrypt o1 V.p (applyTweaks V o1 (setTweakedKey o1 V.g V.p tk1 (some key) size j2 j3).2 hist).ks blk =
    ecbEncrypt o2 V.p (applyTweaks V o2 (setTweakedKey o2 V.g V.p tk2 (some key) size j2' j3').2 hist).ks blk :=
  (tweaked_spec ok hc1 tk1 h1 key size hs1 hs2 hkey j2 j3 hist hv blk).2.1.trans
    (tweaked_spec ok hc2 tk2 h2 key size hs1 hs2 hkey j2' j3' hist hv blk).2.1.symm

end

theorem C12_skinny128 (t1 t2 : Tag) (ks1 ks2 : KeySched 64) (h1 : 56 ≤ ks1.sched.length) (h2 : 56 ≤ ks2.sched.length)
    (key : Bytes) (size : Nat) (hsz : size < 2 ^ 32) (hkey : size ≤ key.length ∨ size > 48) (j2 j3 j2' j3' : BitVec 128) (blk : Bytes) :
    let r1 := setKey (ops128 t1) guards128 p128 ks1 (some key) size j2 j3
    let r2 := setKey (ops128 t2) guards128 p128 ks2 (some key) size j2' j3'
    r1.1 = r2.1 ∧ (r1.1 = 1 → ecbEncrypt (ops128 t1) p128 r1.2 blk = ecbEncrypt (ops128 t2) p128 r2.2 blk ∧
                             ecbDecrypt (ops128 t1) p128 r1.2 blk = ecbDecrypt (ops128 t2) p128 r2.2 blk) :=
  setKey_indep skinny128_ok (opsG128 t1) (opsG128 t2) ks1 ks2 h1 h2 key size hsz hkey j2 j3 j2' j3' blk

theorem C12_skinny64 (t1 t2 : Tag) (ks1 ks2 : KeySched 32) (h1 : 40 ≤ ks1.sched.length) (h2 : 40 ≤ ks2.sched.length)
    (key : Bytes) (size : Nat) (hsz : size < 2 ^ 32) (hkey : size ≤ key.length ∨ size > 24) (j2 j3 j2' j3' : BitVec 64) (blk : Bytes) :
    let r1 := setKey (ops64 t1) guards64 p64 ks1 (some key) size j2 j3
    let r2 := setKey (ops64 t2) guards64 p64 ks2 (some key) size j2' j3'
    r1.1 = r2.1 ∧ (r1.1 = 1 → ecbEncrypt (ops64 t1) p64 r1.2 blk = ecbEncrypt (ops64 t2) p64 r2.2 blk ∧
                             ecbDecrypt (ops64 t1) p64 r1.2 blk = ecbDecrypt (ops64 t2) p64 r2.2 blk) :=
  setKey_indep skinny64_ok (opsG64 t1) (opsG64 t2) ks1 ks2 h1 h2 key size hsz hkey j2 j3 j2' j3' blk

/-- tweakable schedules: same results after the same tweak history in any two configurations -/
theorem C12_tweaked128 (t1 t2 : Tag) (tk1 tk2 : TweakedKey 64) (h1 : 56 ≤ tk1.ks.sched.length) (h2 : 56 ≤ tk2.ks.sched.length)
    (key : Bytes) (size : Nat) (hs1 : 16 ≤ size) (hs2 : size ≤ 32) (hkey : size ≤ key.length) (j2 j3 j2' j3' : BitVec 128)
    (hist : List TweakArg) (hv : ∀ a ∈ hist, validTweak 16 a) (blk : Bytes) :
    ecbEncrypt (ops128 t1) p128 (applyTweaks128 t1 (setTweakedKey (ops128 t1) guards128 p128 tk1 (some key) size j2 j3).2 hist).ks blk =
    ecbEncrypt (ops128 t2) p128 (applyTweaks128 t2 (setTweakedKey (ops128 t2) guards128 p128 tk2 (some key) size j2' j3').2 hist).ks blk :=
  tweaked_indep skinny128_ok (opsG128 t1) (opsG128 t2) tk1 tk2 h1 h2 key size hs1 hs2 hkey j2 j3 j2' j3' hist hv blk

theorem C12_tweaked64 (t1 t2 : Tag) (tk1 tk2 : TweakedKey 32) (h1 : 40 ≤ tk1.ks.sched.length) (h2 : 40 ≤ tk2.ks.sched.length)
    (key : Bytes) (size : Nat) (hs1 : 8 ≤ size) (hs2 : size ≤ 16) (hkey : size ≤ key.length) (j2 j3 j2' j3' : BitVec 64)
    (hist : List TweakArg) (hv : ∀ a ∈ hist, validTweak 8 a) (blk : Bytes) :
    ecbEncrypt (ops64 t1) p64 (applyTweaks64 t1 (setTweakedKey (ops64 t1) guards64 p64 tk1 (some key) size j2 j3).2 hist).ks blk =
    ecbEncrypt (ops64 t2) p64 (applyTweaks64 t2 (setTweakedKey (ops64 t2) guards64 p64 tk2 (some key) size j2' j3').2 hist).ks blk :=
  tweaked_indep skinny64_ok (opsG64 t1) (opsG64 t2) tk1 tk2 h1 h2 key size hs1 hs2 hkey j2 j3 j2' j3' hist hv blk

end SkinnyVerif.Properties
