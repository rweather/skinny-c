/-
C07: parallel ECB equals block-by-block ECB under the specification's block function, for every
whole number of blocks (zero included); the advertised parallel size only groups the work.
The vector back ends are tied to this model by the correspondence check (every block count
0..3·parallel_size+2 on every back end), not by a theorem about their vector code.
-/
import SkinnyVerif.Properties.C01
import SkinnyVerif.Lemmas.Ecb
import SkinnyVerif.Properties.C13

namespace SkinnyVerif.Properties
open SkinnyVerif SkinnyVerif.Impl SkinnyVerif.Lemmas SkinnyVerif.Spec.Modes SkinnyVerif.Spec.Skinny SkinnyVerif.Api

theorem parallelBlocks_eq_ecb (F : Bytes → Bytes) (bs : Nat) (hbs : bs ≠ 0) (input : Bytes) :
    parallelBlocks F bs (input.length + 1) input = ecb F bs input :=
  parallelBlocks_eq F bs hbs _ input

/-- Skinny-128 parallel ECB under a key of a primary size = the specification block by block -/
theorem C07_skinny128 (t : Tag) (ks0 : KeySched 64) (hlen : 56 ≤ ks0.sched.length) (key input : Bytes)
    (hk : key.length = 16 ∨ key.length = 32 ∨ key.length = 48) (j2 j3 : BitVec 128) :
    let ks := (setKey (ops128 t) guards128 p128 ks0 (some key) key.length j2 j3).2
    parallelBlocks (ecbEncrypt (ops128 t) p128 ks) 16 (input.length + 1) input = ecb (encrypt128 key) 16 input ∧
    parallelBlocks (ecbDecrypt (ops128 t) p128 ks) 16 (input.length + 1) input = ecb (decrypt128 key) 16 input := by
  intro ks
  have he : ecbEncrypt (ops128 t) p128 ks = encrypt128 key := funext fun blk => (C01_skinny128 t ks0 hlen key blk hk j2 j3).2.1
  have hd : ecbDecrypt (ops128 t) p128 ks = decrypt128 key := funext fun blk => (C01_skinny128 t ks0 hlen key blk hk j2 j3).2.2
  rw [he, hd]
  exact ⟨parallelBlocks_eq_ecb _ 16 (by decide) input, parallelBlocks_eq_ecb _ 16 (by decide) input⟩

theorem C07_skinny64 (t : Tag) (ks0 : KeySched 32) (hlen : 40 ≤ ks0.sched.length) (key input : Bytes)
    (hk : key.length = 8 ∨ key.length = 16 ∨ key.length = 24) (j2 j3 : BitVec 64) :
    let ks := (setKey (ops64 t) guards64 p64 ks0 (some key) key.length j2 j3).2
    parallelBlocks (ecbEncrypt (ops64 t) p64 ks) 8 (input.length + 1) input = ecb (encrypt64 key) 8 input ∧
    parallelBlocks (ecbDecrypt (ops64 t) p64 ks) 8 (input.length + 1) input = ecb (decrypt64 key) 8 input := by
  intro ks
  have he : ecbEncrypt (ops64 t) p64 ks = encrypt64 key := funext fun blk => (C01_skinny64 t ks0 hlen key blk hk j2 j3).2.1
  have hd : ecbDecrypt (ops64 t) p64 ks = decrypt64 key := funext fun blk => (C01_skinny64 t ks0 hlen key blk hk j2 j3).2.2
  rw [he, hd]
  exact ⟨parallelBlocks_eq_ecb _ 8 (by decide) input, parallelBlocks_eq_ecb _ 8 (by decide) input⟩

/-- the output has the length of the input when that is a whole number of blocks (and `F` returns blocks) -/
theorem ecb_length (F : Bytes → Bytes) (bs : Nat) (hbs : 0 < bs) (hF : ∀ x, (F x).length = bs) (fuel : Nat) (input : Bytes)
    (hl : input.length % bs = 0) (hfuel : input.length < fuel * bs) :
    ((chunks bs fuel input).flatMap F).length = input.length := by
  induction fuel generalizing input with
  | zero => simp at hfuel
  | succ n ih =>
    have hbs' : bs ≠ 0 := by omega
    simp only [chunks, hbs', or_false]
    by_cases h : input.length < bs
    · have : input.length = 0 := by
        have := Nat.mod_eq_of_lt h; omega
      rw [if_pos h]; simp [this]
    · simp only [h, if_false, List.flatMap_cons, List.length_append, hF]
      have hd : (input.drop bs).length = input.length - bs := List.length_drop
      rw [ih (input.drop bs) (by rw [hd]; have := Nat.sub_mod_eq_zero_of_mod_eq (m := input.length) (n := bs) (k := bs) (by simp [hl]); simpa using this)
        (by rw [hd, Nat.succ_mul] at *; omega), hd]
      omega

/-- the advertised parallel size is a positive multiple of the block size (`C13_parallel_size`) -/
theorem C07_parallel_size (bd : Build) (f : Family) (p : Probes) (w : World) (old : Handle) (w' : World) (h' : Handle)
    (hinit : parInit bd f p w (some old) = .ok (w', 1, some h')) : 0 < h'.psize ∧ h'.psize % f.bs = 0 :=
  (C13_parallel_size bd f p w old w' h' hinit).2

end SkinnyVerif.Properties
