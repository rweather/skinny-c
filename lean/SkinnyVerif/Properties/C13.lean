/-
C13: back-end selection.  The probes (generated from the current source, `Gen/Probes.lean`)
answer exactly the architectural questions "may SSE2 / AVX2 instructions be executed", for every
processor state and whatever the registers held on entry; the selection cascade picks the widest
back end whose probe says yes.
-/
import SkinnyVerif.Gen.Probes
import SkinnyVerif.Api.World

namespace SkinnyVerif.Properties
open SkinnyVerif SkinnyVerif.Spec.Cpu SkinnyVerif.Gen.Probes SkinnyVerif.Api SkinnyVerif.Impl

/-- a test of one bit of a register, as the C code writes it -/
theorem and_twoPow_eq_zero (x : BitVec 32) (k : Nat) (hk : k < 32) :
    (x &&& BitVec.twoPow 32 k = 0#32) ↔ x[k] = false := by
  rw [BitVec.and_twoPow, ← BitVec.getLsbD_eq_getElem hk]
  cases x.getLsbD k
  · simp
  · simp only [if_true, reduceCtorEq, iff_false]
    intro h
    simpa [hk] using congrArg (fun v => v.getLsbD k) h

theorem bit26 (x : BitVec 32) : (x &&& 67108864#32 = 0#32) ↔ x[26] = false := and_twoPow_eq_zero x 26 (by decide)
theorem bit27 (x : BitVec 32) : (x &&& 134217728#32 = 0#32) ↔ x[27] = false := and_twoPow_eq_zero x 27 (by decide)
theorem bit5 (x : BitVec 32) : (x &&& 32#32 = 0#32) ↔ x[5] = false := and_twoPow_eq_zero x 5 (by decide)

/-- the test of XCR0 for both SSE and AVX state -/
theorem test_and6 (x : BitVec 32) : (x &&& 6#32 = 6#32) ↔ (x[1] = true ∧ x[2] = true) := by
  rw [show (6#32) = BitVec.twoPow 32 1 ||| BitVec.twoPow 32 2 by decide, BitVec.and_or_distrib_left, BitVec.and_twoPow, BitVec.and_twoPow,
    ← BitVec.getLsbD_eq_getElem (by decide : 1 < 32), ← BitVec.getLsbD_eq_getElem (by decide : 2 < 32)]
  cases x.getLsbD 1 <;> cases x.getLsbD 2 <;> decide

/-- the 128-bit probe answers "SSE2 available", whatever ECX held on entry -/
theorem C13_probe128 (a : Arch) (junk : Nat → BitVec 32) :
    (skinny_has_vec128 (a.env junk) != 0#32) = a.sse2 := by
  simp [skinny_has_vec128, Id.run, Arch.env, Arch.sse2, bit26]
  cases a.leaf1.2.2.2[26] <;> rfl

/-- the 256-bit probe answers "AVX2 usable": the maximum leaf, OSXSAVE, XCR0 and the AVX2 bit of
leaf 7 *sub-leaf 0* are all checked, and no answer depends on a register the code did not set -/
theorem C13_probe256 (a : Arch) (junk : Nat → BitVec 32) :
    (skinny_has_vec256 (a.env junk) != 0#32) = a.avx2Usable := by
  simp [skinny_has_vec256, Id.run, Arch.env, Arch.avx2Usable, bit27, bit5, test_and6]
  -- what is left is the cascade of `if`s against the conjunction, over the five tested bits
  generalize BitVec.ule 7#32 a.maxLeaf = b0, a.leaf1.2.2.1[27] = b1, (a.xcr 0).1[1] = b2, (a.xcr 0).1[2] = b3, (a.leaf7 0).2.1[5] = b4
  revert b0 b1 b2 b3 b4; decide

/-- what the probes report to an `init` call on a given machine -/
def probesOf (a : Arch) (junk : Nat → BitVec 32) : Probes :=
  { vec128 := skinny_has_vec128 (a.env junk) != 0#32, vec256 := skinny_has_vec256 (a.env junk) != 0#32 }

/-- determinism: the same machine always gives the same answers -/
theorem C13_deterministic (a : Arch) (j1 j2 : Nat → BitVec 32) : probesOf a j1 = probesOf a j2 := by
  simp [probesOf, C13_probe128, C13_probe256]

/-- the selected back end is the widest one that exists for the family and that the machine supports -/
theorem C13_selection (a : Arch) (junk : Nat → BitVec 32) (f : Family) :
    selectBackend f (probesOf a junk) =
      if f = .s128 ∧ a.avx2Usable then .vec256 else if a.sse2 then .vec128 else .generic := by
  simp [selectBackend, probesOf, C13_probe128, C13_probe256]

/-- never a back end whose instructions the machine cannot execute -/
theorem C13_never_exceeds (a : Arch) (junk : Nat → BitVec 32) (f : Family) :
    (selectBackend f (probesOf a junk) = .vec256 → a.avx2Usable = true ∧ f = .s128) ∧
    (selectBackend f (probesOf a junk) = .vec128 → a.sse2 = true) := by
  rw [C13_selection]
  cases f <;> cases a.avx2Usable <;> cases a.sse2 <;> simp

/-- the selected back end exists for the family (Skinny-64 and Mantis have no 256-bit back end) -/
theorem C13_exists (a : Arch) (junk : Nat → BitVec 32) (f : Family) : f.has (selectBackend f (probesOf a junk)) = true := by
  rw [C13_selection]
  cases f <;> cases a.avx2Usable <;> cases a.sse2 <;> simp [Family.has]

/-- the advertised parallel size matches the selected back end: blocks per batch × block size -/
theorem C13_parallel_size (bd : Build) (f : Family) (p : Probes) (w : World) (old : Handle) (w' : World) (h' : Handle)
    (hinit : parInit bd f p w (some old) = .ok (w', 1, some h')) :
    h'.psize = (if f = .s128 ∧ selectBackend f p = .vec256 then 8 else if f = .s128 then 4 else 8) * f.bs ∧ 0 < h'.psize ∧ h'.psize % f.bs = 0 := by
  simp only [parInit] at hinit
  split at hinit
  · split at hinit <;> simp at hinit
  · simp at hinit
    obtain ⟨_, rfl⟩ := hinit
    cases f <;> cases selectBackend _ p <;> simp [Family.bs]

example : ∃ a : Arch, a.avx2Usable = true ∧ a.sse2 = true :=
  ⟨{ maxLeaf := 13, leaf0 := (0, 0, 0), leaf1 := (0, 0, 1 <<< 27, 1 <<< 26), leaf7 := fun _ => (0, 1 <<< 5, 0, 0),
     other := fun _ _ => (0, 0, 0, 0), xcr := fun _ => (7, 0) }, by decide, by decide⟩

end SkinnyVerif.Properties
