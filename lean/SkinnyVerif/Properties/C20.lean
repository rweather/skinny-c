/-
C20: the example tools.  Hand model of the three tools' processing loops (`examples/skinny-ctr.c`,
`skinny-ecb.c`, `skinny-tweak.c`): the input file is read in 1024-byte chunks (`fread` on a regular
file: every chunk full except possibly the last), each chunk is processed in place and written.
Theorems: the CTR tool's output is the library's CTR transformation of the whole file (any
chunking is invisible, C05) and applying it twice restores the file; the ECB tool's output is
the block-by-block encryption of all whole blocks, the trailing partial block dropped; the tweak
tool processes block `i` under tweak `T + i` (big-endian increment of the tweak bytes).
Option parsing, file handling and exit codes are outside the model: they are observed by the
tools oracle only (`tools/tools_drv.py`).
-/
import SkinnyVerif.Properties.C06
import SkinnyVerif.Lemmas.Counter
import SkinnyVerif.Lemmas.Ecb

namespace SkinnyVerif.Properties
open SkinnyVerif SkinnyVerif.Impl SkinnyVerif.Lemmas SkinnyVerif.Spec.Modes

/-- `fread(buffer, 1, 1024, f)` until end of file on a regular file -/
def readChunks (n : Nat) : Nat → Bytes → List Bytes
  | 0, _ => []
  | fuel + 1, data => if data.length = 0 then [] else data.take n :: readChunks n fuel (data.drop n)

theorem readChunks_flatten (n : Nat) (hn : 0 < n) (fuel : Nat) (data : Bytes) (hf : data.length < fuel) :
    (readChunks n fuel data).flatten = data := by
  fun_induction readChunks n fuel data with
  | case1 => omega
  | case2 fuel data h0 => rw [List.eq_nil_of_length_eq_zero h0]; rfl
  | case3 fuel data h0 ih => rw [List.flatten_cons, ih (by rw [List.length_drop]; omega), List.take_append_drop]

/-! ## skinny-ctr -/

/-- the CTR tool: one `ctr_encrypt` call per chunk on one CTR object -/
def toolCtr (E : Bytes → Bytes) (bs B : Nat) (lazy : Bool) (st0 : CtrState) (counter : Option Bytes) (size : Nat) (file : Bytes) : Bytes :=
  ((readChunks 1024 (file.length + 1) file).foldl (fun (acc : CtrState × List Bytes) data =>
      let r := ctrEncrypt E bs B lazy acc.1 data; (r.1, acc.2 ++ [r.2])) (st0.setCounter bs B counter size, [])).2.flatten

theorem C20_ctr_tool (E : Bytes → Bytes) (bs B : Nat) (lazy : Bool) (hbs : 0 < bs) (hB : 0 < B) (hB8 : B ≤ 8) (hE : ∀ x, (E x).length = bs)
    (hspec : IncSpec bs) (st0 : CtrState) (counter : Option Bytes) (size : Nat) (hs : size ≤ bs) (file : Bytes) :
    toolCtr E bs B lazy st0 counter size file = Spec.Modes.ctr E bs (counterOf bs (counter.map (·.take size))) 0 file := by
  have h := (C05_stream E bs B lazy hbs hB hB8 hE hspec st0 counter size hs (readChunks 1024 (file.length + 1) file)).1
  rw [readChunks_flatten 1024 (by decide) _ file (by omega)] at h
  exact h

/-- running the CTR tool on its own output (same key and counter) restores the file -/
theorem C20_ctr_tool_roundtrip (E : Bytes → Bytes) (bs B : Nat) (lazy : Bool) (hbs : 0 < bs) (hB : 0 < B) (hB8 : B ≤ 8) (hE : ∀ x, (E x).length = bs)
    (hspec : IncSpec bs) (st0 st1 : CtrState) (counter : Option Bytes) (size : Nat) (hs : size ≤ bs) (file : Bytes) :
    toolCtr E bs B lazy st1 counter size (toolCtr E bs B lazy st0 counter size file) = file := by
  rw [C20_ctr_tool E bs B lazy hbs hB hB8 hE hspec st0 counter size hs, C20_ctr_tool E bs B lazy hbs hB hB8 hE hspec st1 counter size hs]
  exact C05_involution E bs _ 0 file

/-! ## skinny-ecb -/

/-- the ECB tool: per chunk, the whole blocks of the chunk -/
def toolEcb (F : Bytes → Bytes) (bs : Nat) (file : Bytes) : Bytes :=
  ((readChunks 1024 (file.length + 1) file).map fun c => parallelBlocks F bs (c.length + 1) (c.take (c.length - c.length % bs))).flatten

/-- chunks that are whole numbers of blocks (except the last) can be encrypted one by one -/
theorem readChunks_ecb (F : Bytes → Bytes) (bs n : Nat) (hbs : 0 < bs) (hn : 0 < n) (hnb : n % bs = 0) (fuel : Nat) (data : Bytes)
    (hf : data.length < fuel) : (readChunks n fuel data).flatMap (ecb F bs) = ecb F bs data := by
  fun_induction readChunks n fuel data with
  | case1 => omega
  | case2 fuel data h0 => rw [List.eq_nil_of_length_eq_zero h0, ecb_short F bs [] hbs]; rfl
  | case3 fuel data h0 ih =>
    rw [List.flatMap_cons, ih (by rw [List.length_drop]; omega)]
    by_cases hge : n ≤ data.length
    · have hdm := Nat.div_add_mod n bs
      rw [← ecb_append F bs hbs (n / bs) _ _ (by rw [List.length_take, Nat.mul_comm]; omega), List.take_append_drop]
    · rw [List.drop_of_length_le (by omega), List.take_of_length_le (by omega), ecb_short F bs [] hbs, List.append_nil]

theorem C20_ecb_tool (F : Bytes → Bytes) (bs : Nat) (hbs : 0 < bs) (h1024 : 1024 % bs = 0) (file : Bytes) :
    toolEcb F bs file = ecb F bs file := by
  rw [← readChunks_ecb F bs 1024 hbs (by decide) h1024 (file.length + 1) file (by omega), toolEcb, ← List.flatMap_def]
  congr 1
  funext c
  rw [parallelBlocks_eq F bs (by omega), ecb_fuel F bs hbs _ _ (by rw [List.length_take]; omega), ecb_take_whole F bs hbs]

/-! ## skinny-tweak -/

/-- `increment_tweak`: add one to the big-endian number in the tweak bytes (carry chain from the last byte) -/
def incTweak (t : Bytes) : Bytes := ((addChain (t.reverse.map (·.toNat)) 1).reverse).map UInt8.ofNat

/-- the tweak tool on the whole blocks of one chunk sequence: block `i` under the `i`-th tweak -/
def toolTweakBlocks (E : Bytes → Bytes → Bytes) (bs : Nat) : Nat → Bytes → Bytes → Bytes
  | 0, _, _ => []
  | fuel + 1, tw, data => if data.length < bs then [] else E tw (data.take bs) ++ toolTweakBlocks E bs fuel (incTweak tw) (data.drop bs)

theorem incTweak_length (t : Bytes) : (incTweak t).length = t.length := beAdd_length 1 t

/-- the tweak after one increment is the big-endian number plus one, modulo 2^(8·length) -/
theorem C20_increment_tweak (t : Bytes) : beNat (incTweak t) = (beNat t + 1) % 256 ^ t.length := beNat_beAdd 1 t

/-- `n` increments -/
def incTweakN : Nat → Bytes → Bytes
  | 0, t => t
  | n + 1, t => incTweakN n (incTweak t)

theorem incTweakN_length (n : Nat) (t : Bytes) : (incTweakN n t).length = t.length := by
  induction n generalizing t with
  | zero => rfl
  | succ k ih => rw [incTweakN, ih, incTweak_length]

/-- the tweak used for block `i` is `T + i` (mod 2^(8·tweak_size)) -/
theorem C20_tweak_of_block (t : Bytes) (i : Nat) : beNat (incTweakN i t) = (beNat t + i) % 256 ^ t.length := by
  induction i generalizing t with
  | zero =>
    rw [incTweakN, Nat.add_zero, Nat.mod_eq_of_lt]
    rw [pow_256]
    exact beNat_lt t
  | succ n ih =>
    rw [incTweakN, ih (incTweak t), C20_increment_tweak, incTweak_length, Nat.mod_add_mod, Nat.add_assoc, Nat.add_comm 1]

/-- the tweak tool processes block `i` under the tweak incremented `i` times -/
theorem C20_tweak_tool (E : Bytes → Bytes → Bytes) (bs : Nat) (hbs : 0 < bs) (fuel : Nat) (tw data : Bytes) (i : Nat)
    (hi : (i + 1) * bs ≤ data.length) (hf : data.length < fuel * bs) (hE : ∀ t x, (E t x).length = bs) :
    ((toolTweakBlocks E bs fuel tw data).drop (i * bs)).take bs = E (incTweakN i tw) ((data.drop (i * bs)).take bs) := by
  induction fuel generalizing i tw data with
  | zero => simp at hf
  | succ k ih =>
    have hlen : (E tw (data.take bs)).length = bs := hE _ _
    have hle : bs ≤ data.length := Nat.le_trans (Nat.le_mul_of_pos_left bs (Nat.succ_pos i)) hi
    rw [toolTweakBlocks, if_neg (by omega)]
    cases i with
    | zero => rw [Nat.zero_mul, List.drop_zero, List.drop_zero, List.take_append_of_le_length (by omega), List.take_of_length_le (by omega)]; rfl
    | succ n =>
      rw [Nat.succ_mul] at hi hf ⊢
      rw [Nat.add_comm (n * bs), ← List.drop_drop, ← List.drop_drop, List.drop_append_of_le_length (by omega), List.drop_of_length_le (Nat.le_of_eq hlen),
        List.nil_append, ih (incTweak tw) (data.drop bs) n (by rw [List.length_drop]; omega) (by rw [List.length_drop]; omega)]
      rfl

end SkinnyVerif.Properties
