/-
C03, MANTIS part: for every round count, key, tweak and block, decryption inverts encryption and
vice versa - at the level of the specification, and therefore (C02) for the implementation
through `mantis_ecb_crypt`, `mantis_ecb_crypt_tweaked` and after `mantis_swap_modes`.
-/
import SkinnyVerif.Properties.C02
import SkinnyVerif.Properties.C03
import SkinnyVerif.Lemmas.MantisInverse

namespace SkinnyVerif.Properties
open SkinnyVerif SkinnyVerif.Impl SkinnyVerif.Lemmas SkinnyVerif.Spec.Skinny SkinnyVerif.Spec.Mantis

/-- the tweak component of the backward half does not depend on key or state -/
theorem bwd_fold_tw (k k' : Cells 4) (l : List Nat) (a a' : Cells 4 × Cells 4) (h : a.2 = a'.2) :
    (l.foldl (fun (c : Cells 4 × Cells 4) i => bwdRound k i c.1 c.2) a).2 =
    (l.foldl (fun (c : Cells 4 × Cells 4) i => bwdRound k' i c.1 c.2) a').2 := by
  induction l generalizing a a' with
  | nil => exact h
  | cons i rest ih =>
    simp only [List.foldl_cons]
    apply ih
    simp only [bwdRound, h]

/-- **the reflection structure**: running the cipher under the flipped keys undoes it -/
theorem crypt_flip (r : Nat) (k : Keys) (t m : Cells 4) : crypt r (flipKeys k) t (crypt r k t m) = m := by
  rw [crypt_stages r (flipKeys k), crypt_stages r k]
  simp only [flipKeys, xorCells_cancel]
  -- name the intermediate states of the encryption
  generalize hs0 : xorCells m (xorCells k.k0 (xorCells k.k1 t)) = s0
  generalize hA : (List.range r).foldl (fun (a : Cells 4 × Cells 4) i => fwdRound k.k1 i a.1 a.2) (s0, t) = A
  generalize hB : (List.range r).reverse.foldl (fun (a : Cells 4 × Cells 4) i => bwdRound (xorCells k.k1 (cellsOfWord alpha)) i a.1 a.2)
      (subCells Sb0 (mulColumns MM (subCells Sb0 A.1)), A.2) = B
  -- the tweak is back at its start after the backward half
  have hBt : B.2 = t := by
    rw [← hB]
    have h1 := bwd_fold_tw (xorCells k.k1 (cellsOfWord alpha)) k.k1 (List.range r).reverse
      (subCells Sb0 (mulColumns MM (subCells Sb0 A.1)), A.2) A rfl
    rw [h1, ← hA, bwd_fold_fwd_fold]
  -- undo the output whitening
  rw [hBt, xorCells_cancel]
  -- the forward half of the second run undoes the backward half of the first
  have hFB : (List.range r).foldl (fun (a : Cells 4 × Cells 4) i => fwdRound (xorCells k.k1 (cellsOfWord alpha)) i a.1 a.2) (B.1, t) =
      (subCells Sb0 (mulColumns MM (subCells Sb0 A.1)), A.2) := by
    have : (B.1, t) = B := by rw [← hBt]
    rw [this, ← hB, fwd_fold_bwd_fold]
  rw [hFB]
  simp only [mid_twice]
  -- the backward half of the second run undoes the forward half of the first
  have hBF : (List.range r).reverse.foldl (fun (a : Cells 4 × Cells 4) i => bwdRound k.k1 i a.1 a.2) (A.1, A.2) = (s0, t) := by
    rw [show (A.1, A.2) = A from rfl, ← hA, bwd_fold_fwd_fold]
  rw [hBF, ← hs0]
  exact xorCells_cancel m _

/-- MANTIS-r: decrypt ∘ encrypt = id and encrypt ∘ decrypt = id on blocks, for every r, key, tweak -/
theorem C03_mantis_spec (r : Nat) (key tweak blk : Bytes) (hb : blk.length = 8) :
    Spec.Mantis.decrypt r key tweak (Spec.Mantis.encrypt r key tweak blk) = blk ∧
    Spec.Mantis.encrypt r key tweak (Spec.Mantis.decrypt r key tweak blk) = blk := by
  simp only [Spec.Mantis.decrypt, Spec.Mantis.encrypt, cellsOfBytes4_bytesOfCells4]
  constructor
  · rw [decKeys_eq_flip, crypt_flip, bytesOfCells4_cellsOfBytes4 blk hb]
  · conv => lhs; rw [encKeys_eq_flip]
    rw [crypt_flip, bytesOfCells4_cellsOfBytes4 blk hb]

/-- the implementation: a decryption schedule undoes an encryption schedule (any configuration,
stored or per-call tweak), and `swap_modes` turns one into the other -/
theorem C03_mantis_impl (t : Tag) (ksE ksD : MantisKey) (key tweak blk : Bytes) (hk : key.length = 16) (hb : blk.length = 8)
    (rounds : Nat) (hr : 5 ≤ rounds ∧ rounds ≤ 8) :
    let o := opsMantis t
    let e := (mantisSetKey o ksE (some key) 16 rounds 1).2
    let d := (mantisSetKey o ksD (some key) 16 rounds 0).2
    mantisCryptTweaked o d tweak (mantisCryptTweaked o e tweak blk) = blk ∧
    mantisCryptTweaked o e tweak (mantisCryptTweaked o d tweak blk) = blk ∧
    mantisCrypt o (mantisSetTweak o d (some tweak) 8).2 (mantisCrypt o (mantisSetTweak o e (some tweak) 8).2 blk) = blk := by
  intro o e d
  have E := C02_mantis t ksE key tweak blk hk rounds hr 1
  have hlen : (Spec.Mantis.encrypt rounds key tweak blk).length = 8 := by simp [Spec.Mantis.encrypt, bytesOfCells4]
  have hlenD : (Spec.Mantis.decrypt rounds key tweak blk).length = 8 := by simp [Spec.Mantis.decrypt, bytesOfCells4]
  have D1 := C02_mantis t ksD key tweak (Spec.Mantis.encrypt rounds key tweak blk) hk rounds hr 0
  have D2 := C02_mantis t ksD key tweak blk hk rounds hr 0
  have E2 := C02_mantis t ksE key tweak (Spec.Mantis.decrypt rounds key tweak blk) hk rounds hr 1
  have S := C03_mantis_spec rounds key tweak blk hb
  simp only [specCrypt, if_true, show ¬ ((0 : Int) = 1) by decide, if_false] at E D1 D2 E2
  refine ⟨?_, ?_, ?_⟩
  · show mantisCryptTweaked o d tweak (mantisCryptTweaked o e tweak blk) = blk
    rw [E.2.2.1, D1.2.2.1]; exact S.1
  · show mantisCryptTweaked o e tweak (mantisCryptTweaked o d tweak blk) = blk
    rw [D2.2.2.1, E2.2.2.1]; exact S.2
  · show mantisCrypt o (mantisSetTweak o d (some tweak) 8).2 (mantisCrypt o (mantisSetTweak o e (some tweak) 8).2 blk) = blk
    rw [E.2.2.2.2.1, D1.2.2.2.2.1]; exact S.1

end SkinnyVerif.Properties
