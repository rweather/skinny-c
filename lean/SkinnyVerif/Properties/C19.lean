/-
C19 (Skinny-128 part): the Arduino port's portable C++ code (`arduino/libraries/Skinny/Skinny128.cpp`).
Every piece of `encryptBlock`, `decryptBlock`, `setTK1`, `xorTK1`, `setTK2`, `setTK3` is translated
from the C++ source on every run (`Gen/Arduino128Pieces.lean`) and proved correct on cells by the same
script as the pieces of the C library's four configurations (`Lemmas/Ops128.lean`, `Lemmas/Ops64.lean`); the
refinement theorems behind C01 and C04 hold for any correct table of pieces (`setKey_conforms`,
`tweaked_spec`) and are instantiated here with the Arduino table.  So for every key of a primary size, every tweak history and
every block the Arduino classes compute the specification - hence exactly what the C library computes.
The glue (which `setTKn` a class calls for which key size; `setTweak` as xor-out / xor-in) is the
same hand model as for the C library, tied by the `ardrv` oracle; the Skinny-64 and Mantis-8 classes
and the CTR wrapper are covered by the oracle only.
-/
import SkinnyVerif.Properties.C04
import SkinnyVerif.Properties.C01
import SkinnyVerif.Lemmas.Ops64

namespace SkinnyVerif.Properties
open SkinnyVerif SkinnyVerif.Gen SkinnyVerif.Spec.Skinny SkinnyVerif.Impl SkinnyVerif.Lemmas

def applyTweaks128_ops (o : SkinnyOps 128 64) (hc : OpsCorrectG abs128 o) (tk : TweakedKey 64) (hist : List TweakArg) : TweakedKey 64 :=
  hist.foldl (fun tk a => (setTweak o guards128 p128 tk a.1 a.2).2) tk

/-- **C19, Skinny128_128 / _256 / _384**: encryptBlock and decryptBlock after setKey are the specification
(and therefore the C library, C01) for every key and block -/
theorem C19_skinny128 (ks0 : KeySched 64) (hlen : 56 ≤ ks0.sched.length) (key blk : Bytes)
    (hk : key.length = 16 ∨ key.length = 32 ∨ key.length = 48) (j2 j3 : BitVec 128) :
    ecbEncrypt opsArd128 p128 (setKey opsArd128 guards128 p128 ks0 (some key) key.length j2 j3).2 blk = encrypt128 key blk ∧
    ecbDecrypt opsArd128 p128 (setKey opsArd128 guards128 p128 ks0 (some key) key.length j2 j3).2 blk = decrypt128 key blk :=
  (setKey_conforms skinny128_ok opsArdG128 ks0 hlen key blk hk j2 j3).2

/-- the Arduino class and the C library (any configuration) agree on every key and block -/
theorem C19_skinny128_eq_C (t : Tag) (ks0 ks1 : KeySched 64) (h0 : 56 ≤ ks0.sched.length) (h1 : 56 ≤ ks1.sched.length) (key blk : Bytes)
    (hk : key.length = 16 ∨ key.length = 32 ∨ key.length = 48) (j2 j3 j2' j3' : BitVec 128) :
    ecbEncrypt opsArd128 p128 (setKey opsArd128 guards128 p128 ks0 (some key) key.length j2 j3).2 blk =
      ecbEncrypt (ops128 t) p128 (setKey (ops128 t) guards128 p128 ks1 (some key) key.length j2' j3').2 blk := by
  rw [(C19_skinny128 ks0 h0 key blk hk j2 j3).1, (C01_skinny128 t ks1 h1 key blk hk j2' j3').2.1]


/-- **C19, Skinny128_256_Tweaked / _384_Tweaked**: after setKey and any history of setTweak calls
(lengths 1..16, NULL = zero) the class computes the specification's tweakable cipher under the
most recent tweak only - tweak changes are history-independent -/
theorem C19_tweaked128 (tk0 : TweakedKey 64) (hlen : 56 ≤ tk0.ks.sched.length) (key : Bytes) (size : Nat)
    (hs : size = 16 ∨ size = 32) (hkey : size ≤ key.length) (j2 j3 : BitVec 128)
    (hist : List TweakArg) (hv : ∀ a ∈ hist, validTweak 16 a) (blk : Bytes) :
    let r := setTweakedKey opsArd128 guards128 p128 tk0 (some key) size j2 j3
    let tk := applyTweaks128_ops opsArd128 opsArdG128 r.2 hist
    ecbEncrypt opsArd128 p128 tk.ks blk = encryptTweaked128 (padRight (if size = 16 then 16 else 32) (key.take size)) (lastTweak 16 hist) blk ∧
    ecbDecrypt opsArd128 p128 tk.ks blk = decryptTweaked128 (padRight (if size = 16 then 16 else 32) (key.take size)) (lastTweak 16 hist) blk :=
  (tweaked_spec skinny128_ok opsArdG128 tk0 hlen key size (show 16 ≤ size by omega) (show size ≤ 32 by omega) hkey j2 j3 hist hv blk).2


/-! ## Skinny-64 -/

/-- non-vacuity: the hypotheses are met by the paper's SKINNY-128-384 vector and a zeroed schedule -/
example : (56 ≤ (List.replicate 56 (0 : BitVec 64)).length) ∧ ((List.replicate 48 (7 : UInt8)).length = 16 ∨ (List.replicate 48 (7 : UInt8)).length = 32 ∨ (List.replicate 48 (7 : UInt8)).length = 48) := by
  simp


def applyTweaks64_ops (o : SkinnyOps 64 32) (hc : OpsCorrectG abs64 o) (tk : TweakedKey 32) (hist : List TweakArg) : TweakedKey 32 :=
  hist.foldl (fun tk a => (setTweak o guards64 p64 tk a.1 a.2).2) tk

/-- non-vacuity: a history with a short tweak, a null tweak and a full tweak is valid -/
example : ∀ a ∈ ([(some [1, 2, 3], 3), (none, 16), (some (List.replicate 16 9), 16)] : List TweakArg), validTweak 16 a := by
  intro a ha
  simp at ha
  rcases ha with h | h | h <;> subst h <;> simp [validTweak]


/-- **C19, Skinny64_64 / _128 / _192** -/
theorem C19_skinny64 (ks0 : KeySched 32) (hlen : 40 ≤ ks0.sched.length) (key blk : Bytes)
    (hk : key.length = 8 ∨ key.length = 16 ∨ key.length = 24) (j2 j3 : BitVec 64) :
    ecbEncrypt opsArd64 p64 (setKey opsArd64 guards64 p64 ks0 (some key) key.length j2 j3).2 blk = encrypt64 key blk ∧
    ecbDecrypt opsArd64 p64 (setKey opsArd64 guards64 p64 ks0 (some key) key.length j2 j3).2 blk = decrypt64 key blk :=
  (setKey_conforms skinny64_ok opsArdG64 ks0 hlen key blk hk j2 j3).2

/-- **C19, Skinny64_128_Tweaked / _192_Tweaked** -/
theorem C19_tweaked64 (tk0 : TweakedKey 32) (hlen : 40 ≤ tk0.ks.sched.length) (key : Bytes) (size : Nat)
    (hs : size = 8 ∨ size = 16) (hkey : size ≤ key.length) (j2 j3 : BitVec 64)
    (hist : List TweakArg) (hv : ∀ a ∈ hist, validTweak 8 a) (blk : Bytes) :
    let r := setTweakedKey opsArd64 guards64 p64 tk0 (some key) size j2 j3
    let tk := applyTweaks64_ops opsArd64 opsArdG64 r.2 hist
    ecbEncrypt opsArd64 p64 tk.ks blk = encryptTweaked64 (padRight (if size = 8 then 8 else 16) (key.take size)) (lastTweak 8 hist) blk ∧
    ecbDecrypt opsArd64 p64 tk.ks blk = decryptTweaked64 (padRight (if size = 8 then 8 else 16) (key.take size)) (lastTweak 8 hist) blk :=
  (tweaked_spec skinny64_ok opsArdG64 tk0 hlen key size (show 8 ≤ size by omega) (show size ≤ 16 by omega) hkey j2 j3 hist hv blk).2

end SkinnyVerif.Properties
