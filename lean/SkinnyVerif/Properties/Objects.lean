/-
The object layer (`Api/Machine.lean`) call by call, then history by history.
* `call_spec`: the contract of every call other than `init` / `cleanup` - it touches no other object's context, completes on
  a usable handle, stores only a value of the object's own type, and answers invalid arguments with 0 - read off the
  characterisation of the `World` functions as accesses (`Properties/Access.lean`); `init_*` and `cleanup_*` say what the
  two remaining calls do.
* `Inv`, `Inv.update`, `step_ok`, `run_ok` (C14-C17): for every history a C caller may produce, no call faults, the
  heap/ownership invariant holds, cleanup releases exactly what init allocated, and every freed block was wiped.
-/
import SkinnyVerif.Properties.Access
import SkinnyVerif.Lemmas.GuardLemmas

namespace SkinnyVerif.Properties
open SkinnyVerif SkinnyVerif.Impl SkinnyVerif.Api

/-- what the documentation calls an invalid argument, per call (sizes are C `unsigned` values) -/
def InvalidArgs : Kind → Call → Prop
  | .ctr .s128, .setKey key size _ => key = none ∨ size < 16 ∨ 48 < size
  | .ctr .s64, .setKey key size _ => key = none ∨ size < 8 ∨ 24 < size
  | .par .s128, .setKey key size _ => key = none ∨ size < 16 ∨ 48 < size
  | .par .s64, .setKey key size _ => key = none ∨ size < 8 ∨ 24 < size
  | .ctr .s128, .setTweakedKey key size _ => key = none ∨ size < 16 ∨ 32 < size
  | .ctr .s64, .setTweakedKey key size _ => key = none ∨ size < 8 ∨ 16 < size
  | .ctr .s128, .setTweak _ size => size < 1 ∨ 16 < size
  | .ctr .s64, .setTweak _ size => size < 1 ∨ 8 < size
  | .ctr .mantis, .setTweak _ size => size ≠ 8
  | .ctr .mantis, .mantisSetKey key size rounds _ => key = none ∨ size ≠ 16 ∨ rounds < 5 ∨ 8 < rounds
  | .par .mantis, .mantisSetKey key size rounds _ => key = none ∨ size ≠ 16 ∨ rounds < 5 ∨ 8 < rounds
  | .ctr f, .setCounter _ size => f.bs < size
  | .ctr _, .encrypt input => input = none
  | .par f, .parCrypt _ input => f ≠ .mantis ∧ input.length % f.bs ≠ 0
  | .par .mantis, .mantisParCrypt _ input => input.length % 8 ≠ 0
  | _, _ => False

def sizesOK : Call → Prop
  | .setKey _ size _ => size < 2 ^ 32
  | .setTweakedKey _ size _ => size < 2 ^ 32
  | .setTweak _ size => size < 2 ^ 32
  | .mantisSetKey _ size rounds _ => size < 2 ^ 32 ∧ rounds < 2 ^ 32
  | _ => True

theorem call_cases (c : Call) : (∃ p, c = .init p) ∨ c = .cleanup ∨ c.isInit = false ∧ c.isCleanup = false := by
  cases c <;> simp [Call.isInit, Call.isCleanup]

/-! ## the calls other than `init` and `cleanup` -/

section
/- the setters return 0 when the generated guard rejects their arguments -/
variable {b h : Nat} {o : SkinnyOps b h} {g : SkinnyGuards} {p : SkinnyParams} {ks : KeySched h} {tk : TweakedKey h} {arg : Option Bytes}
  {size rounds : Nat} {j2 j3 : BitVec b} {mo : MantisOps} {mk : MantisKey} {mode : Int}

theorem setKey_zero (hg : g.setKey false arg.isNone (BitVec.ofNat 32 size) = true) : (setKey o g p ks arg size j2 j3).1 = 0 := by
  simp [setKey, hg]
theorem setTweakedKey_zero (hg : g.setTweakedKey false arg.isNone (BitVec.ofNat 32 size) = true) :
    (setTweakedKey o g p tk arg size j2 j3).1 = 0 := by
  simp [setTweakedKey, hg]
theorem setTweak_zero (hg : g.setTweak false arg.isNone (BitVec.ofNat 32 size) = true) : (setTweak o g p tk arg size).1 = 0 := by
  simp [setTweak, hg]
theorem mantisSetKey_zero (hg : mantisSetKeyGuard false arg.isNone size rounds mode = true) :
    (mantisSetKey mo mk arg size rounds mode).1 = 0 := by
  simp [mantisSetKey, hg]
theorem mantisSetTweak_zero (hg : mantisSetTweakGuard false arg.isNone size = true) : (mantisSetTweak mo mk arg size).1 = 0 := by
  simp [mantisSetTweak, hg]
end

section
variable {bd : Build} {k : Kind} {h : Handle} {c : Call}

/-- what holds of the value a call stores and the result it returns: a stored value has the object's type and comes with a
non-zero result; invalid arguments store nothing and return 0 -/
def Fine (k : Kind) (c : Call) (x : Option CtxVal × Out) : Prop :=
  (∀ v, x.1 = some v → v.shape = k.shape ∧ x.2.ret ≠ some 0) ∧ (InvalidArgs k c → sizesOK c → x = (none, { ret := some 0 }))

/-- **the contract of a call that is neither `init` nor `cleanup`**.  Whatever the handle holds, the call neither reads nor
writes another object's context.  On a usable handle it completes, leaves the handle alone, stores at most one value, in the
object's own context, and its outcome is `Fine`; on an object without a context it reports failure. -/
structure CallSpec (bd : Build) (k : Kind) (h : Handle) (c : Call) : Prop where
  frame : Frame h.ctx fun w => callStep bd w k (some h) c
  total : ∀ w, WFH w k h → ∃ v? out, callStep bd w k (some h) c = .ok (store w h.ctx v?, some h, out) ∧ Fine k c (v?, out) ∧
    (h.ctx = .null → (out.ret = none ∨ out.ret = some 0) ∧ out.data = [])

/-- a call the API does not have for this kind of object -/
theorem CallSpec.skip (hG : ∀ w, callStep bd w k (some h) c = .ok (w, some h, {})) (hbad : ¬ InvalidArgs k c) : CallSpec bd k h c :=
  ⟨⟨fun w q u? _ => by rw [hG, hG]; rfl⟩, fun w _ => ⟨none, {}, hG w, ⟨nofun, fun hb => absurd hb hbad⟩, fun _ => ⟨Or.inl rfl, rfl⟩⟩⟩

/-- a call that presents the result `r` of an access as `m r`; by default it returns 0, or it is a `void` function (which
has no invalid arguments) -/
theorem CallSpec.of_access {ρ : Type} {F : World → M (World × ρ)} {dflt : ρ} {vt : VtVal} {rejected : Prop} [Decidable rejected]
    {g : Backend → CtxVal → M (Option CtxVal × ρ)} (m : ρ → Out)
    (hG : ∀ w, (F w >>= fun r => pure (r.1, some h, m r.2)) = callStep bd w k (some h) c)
    (hF : ∀ w, F w = access w h.ctx dflt (gate vt rejected g)) (hvt : h.vtable ≠ .garbage → vt ≠ .garbage)
    (hd : m dflt = { ret := some 0 } ∨ m dflt = {} ∧ ¬ InvalidArgs k c)
    (hg : ¬ rejected → ∀ b v, v.shape = k.shape → ∃ x, g b v = .ok x ∧ Fine k c (x.1, m x.2)) : CallSpec bd k h c := by
  refine ⟨⟨fun w q u? hav => ?_⟩, fun w hwf => ?_⟩
  · rw [← hG, ← hG, hF, hF, (access_frame _ _ _).eq w q u? hav]
    cases access w h.ctx dflt _ <;> rfl
  · have h0 : Fine k c (none, m dflt) := ⟨nofun, fun hb _ => hd.elim (fun e => by rw [e]) fun e => absurd hb e.2⟩
    obtain ⟨x, hx, hq, hn⟩ := access_wf hwf (hvt hwf.1) (Q := fun x => Fine k c (x.1, m x.2)) h0 hg
    refine ⟨x.1, m x.2, by rw [← hG, hF, hx]; rfl, hq, fun hc => ?_⟩
    rw [hn hc]
    exact hd.elim (fun e => by rw [e]; exact ⟨.inr rfl, rfl⟩) fun e => by rw [e.1]; exact ⟨.inl rfl, rfl⟩

/-- the key setters: the new value has the type of the old one; invalid arguments give 0 -/
theorem fine_keep {x : Nat × CtxVal} (hs : x.2.shape = k.shape) (hz : InvalidArgs k c → sizesOK c → x.1 = 0) :
    Fine k c ((keep x).1, { ret := some (keep x).2 }) :=
  ⟨fun _ e => ⟨(keep_some e).1 ▸ hs, fun e' => (keep_some e).2 (Option.some.inj e')⟩, fun hb hsz => by rw [keep_zero (hz hb hsz)]⟩

theorem CallSpec.of_ctrUpdate {argNull needArg : Bool} {upd : Backend → CtxVal → M (Nat × CtxVal)}
    (hG : ∀ w, (ctrUpdate w (some h) argNull needArg upd >>= fun r => pure (r.1, some h, { ret := some r.2 })) = callStep bd w k (some h) c)
    (hupd : ∀ b v, v.shape = k.shape → ∃ x, upd b v = .ok x ∧ x.2.shape = k.shape ∧ (InvalidArgs k c → sizesOK c → x.1 = 0)) :
    CallSpec bd k h c := by
  refine .of_access (fun r => { ret := some r }) hG (ctrUpdate_eq h _ _ _) id (.inl rfl) fun _ b v hv => ?_
  obtain ⟨x, hx, hs, hz⟩ := hupd b v hv
  exact ⟨keep x, by rw [hx]; rfl, fine_keep hs hz⟩

end

theorem call_spec (bd : Build) (k : Kind) (h : Handle) (c : Call) (hi : c.isInit = false) (hcl : c.isCleanup = false) :
    CallSpec bd k h c := by
  cases k with
  | ctr f =>
    cases c with
    | init => cases hi
    | cleanup => cases hcl
    | parCrypt | mantisParCrypt | swap => cases f <;> exact .skip (fun _ => rfl) id
    | setKey key size junk =>
      cases f with
      | mantis => exact .skip (fun _ => rfl) id
      | s128 | s64 =>
        refine .of_ctrUpdate (fun _ => rfl) fun b v hv => ?_
        cases v <;> cases hv
        exact ⟨_, rfl, rfl, fun hb hs => setKey_zero (by simpa [InvalidArgs, Lemmas.guard128_setKey _ _ hs, Lemmas.guard64_setKey _ _ hs, or_assoc] using hb)⟩
    | setTweakedKey key size junk =>
      cases f with
      | mantis => exact .skip (fun _ => rfl) id
      | s128 | s64 =>
        refine .of_ctrUpdate (fun _ => rfl) fun b v hv => ?_
        cases v <;> cases hv
        exact ⟨_, rfl, rfl, fun hb hs => setTweakedKey_zero (by simpa [InvalidArgs, Lemmas.guard128_setTweakedKey _ _ hs, Lemmas.guard64_setTweakedKey _ _ hs, or_assoc] using hb)⟩
    | setTweak tweak size =>
      cases f with
      | mantis =>
        refine .of_ctrUpdate (fun _ => rfl) fun b v hv => ?_
        cases v <;> cases hv
        exact ⟨_, rfl, rfl, fun hb hs => mantisSetTweak_zero (by simpa [InvalidArgs, Lemmas.guardMantis_setTweak _ _ hs] using hb)⟩
      | s128 | s64 =>
        refine .of_ctrUpdate (fun _ => rfl) fun b v hv => ?_
        cases v <;> cases hv
        exact ⟨_, rfl, rfl, fun hb hs => setTweak_zero (by simpa [InvalidArgs, Lemmas.guard128_setTweak _ _ hs, Lemmas.guard64_setTweak _ _ hs] using hb)⟩
    | mantisSetKey key size rounds mode =>
      cases f with
      | s128 | s64 => exact .skip (fun _ => rfl) id
      | mantis =>
        refine .of_ctrUpdate (fun _ => rfl) fun b v hv => ?_
        cases v <;> cases hv
        exact ⟨_, rfl, rfl, fun hb hs => mantisSetKey_zero (by simpa [InvalidArgs, Lemmas.guardMantis_setKey _ _ _ _ hs.1 hs.2, or_assoc] using hb)⟩
    | setCounter counter size =>
      refine .of_access (fun r => { ret := some r }) (fun _ => rfl) (ctrSetCounter_eq f h counter size) id (.inl rfl) fun hn b v hv => ?_
      obtain ⟨v', st, hx, hs⟩ := onStream_ok _ hv
      exact ⟨_, hx, fun _ e => by cases e; exact ⟨hs.trans hv, nofun⟩, fun hb _ => absurd (by cases f <;> exact hb) hn⟩
    | encrypt input =>
      refine .of_access (fun r => { ret := some r.1, data := r.2 }) (fun _ => rfl) (ctrEncryptCall_eq bd f h input) id (.inl rfl)
        fun hn b v hv => ?_
      obtain ⟨v', st, hx, hs⟩ := onStream_ok _ hv
      exact ⟨_, hx, fun _ e => by cases e; exact ⟨hs.trans hv, nofun⟩, fun hb _ => absurd (by cases f <;> exact hb) hn⟩
  | par f =>
    cases c with
    | init => cases hi
    | cleanup => cases hcl
    | setTweakedKey | setTweak | setCounter | encrypt => cases f <;> exact .skip (fun _ => rfl) id
    | setKey key size junk =>
      cases f with
      | mantis => exact .skip (fun _ => rfl) id
      | s128 | s64 =>
        refine .of_access (fun r => { ret := some r }) (fun _ => rfl) (skinnyParSetKey_eq bd _ h key size junk) (fun _ => nofun) (.inl rfl)
          fun _ _ v hv => ?_
        cases v <;> cases hv
        exact ⟨_, rfl, fine_keep rfl fun hb hs => setKey_zero (by simpa [InvalidArgs, Lemmas.guard128_setKey _ _ hs, Lemmas.guard64_setKey _ _ hs, or_assoc] using hb)⟩
    | mantisSetKey key size rounds mode =>
      cases f with
      | s128 | s64 => exact .skip (fun _ => rfl) id
      | mantis =>
        refine .of_access (fun r => { ret := some r }) (fun _ => rfl) (mantisParSetKey_eq bd h key size rounds mode) (fun _ => nofun) (.inl rfl)
          fun _ _ v hv => ?_
        cases v <;> cases hv
        exact ⟨_, rfl, fine_keep rfl fun hb hs =>
          mantisSetKey_zero (by simpa [InvalidArgs, Lemmas.guardMantis_setKey _ _ _ _ hs.1 hs.2, or_assoc] using hb)⟩
    | swap =>
      cases f with
      | s128 | s64 => exact .skip (fun _ => rfl) id
      | mantis =>
        refine .of_access (fun _ => {}) (fun w => bind_map _ (·, ()) _) (mantisParSwap_eq bd h)
          (fun _ => nofun) (.inr ⟨rfl, id⟩) fun _ _ v hv => ?_
        cases v <;> cases hv
        exact ⟨_, rfl, fun _ e => by cases e; exact ⟨rfl, nofun⟩, nofun⟩
    | parCrypt enc input =>
      cases f with
      | mantis => exact .skip (fun _ => rfl) (fun hb => hb.1 rfl)
      | s128 | s64 =>
        refine .of_access (fun r => { ret := some r.1, data := r.2 }) (fun w => bind_map _ (Prod.mk w) _)
          (skinnyParCrypt_eq bd _ enc h input) (fun _ => nofun) (.inl rfl)
          fun hn _ v hv => ?_
        cases v <;> cases hv
        exact ⟨_, rfl, nofun, fun hb _ => absurd hb.2 hn⟩
    | mantisParCrypt tweaks input =>
      cases f with
      | s128 | s64 => exact .skip (fun _ => rfl) id
      | mantis =>
        refine .of_access (fun r => { ret := some r.1, data := r.2 }) (fun w => bind_map _ (Prod.mk w) _)
          (mantisParCrypt_eq bd h tweaks input) (fun _ => nofun) (.inl rfl)
          fun hn _ v hv => ?_
        cases v <;> cases hv
        exact ⟨_, rfl, nofun, fun hb _ => absurd hb hn⟩

/-! ## calls through a NULL object pointer -/

theorem call_null (bd : Build) (hb : bd.parInitNullCheck = true) (w : World) (k : Kind) (c : Call) :
    ∃ out, callStep bd w k none c = .ok (w, none, out) ∧ (out.ret = none ∨ out.ret = some 0) := by
  cases k with
  | ctr f => cases c <;> cases f <;> refine ⟨_, rfl, ?_⟩ <;> first | exact .inr rfl | exact .inl rfl
  | par f =>
    cases c with
    | init => exact ⟨_, by simp only [callStep, parInit, hb]; rfl, .inr rfl⟩
    | _ => cases f <;> refine ⟨_, rfl, ?_⟩ <;> first | exact .inr rfl | exact .inl rfl

/-! ## init and cleanup -/

/-- an object that owns no context and has no garbage fields -/
def Inert (h : Handle) : Prop := h.ctx = .null ∧ h.vtable ≠ .garbage

theorem inert_zero : Inert zeroHandle := ⟨rfl, VtVal.noConfusion⟩

theorem Inert.wfh {h : Handle} (hin : Inert h) (w : World) (k : Kind) : WFH w k h :=
  ⟨hin.2, by rw [hin.1]; nofun, fun id hid => by rw [hin.1] at hid; cases hid⟩

theorem ctrZero_shape (f : Family) (be : Backend) (stg : Bool) : (ctrZero f be stg).shape = (Kind.ctr f).shape := by
  cases f <;> rfl
theorem parZero_shape (f : Family) : (parZero f).shape = (Kind.par f).shape := by
  cases f <;> rfl

/-- `init` when the allocation fails, whatever the object's memory held before: the heap is unchanged, 0 is returned and the
object is left zeroed -/
theorem init_fail (bd : Build) (hb : bd.initClearsOnFail = true) (w : World) (k : Kind) (old : Handle) (p : Probes)
    (hf : w.failAt = some w.allocCount) :
    ∃ w', callStep bd w k (some old) (.init p) = .ok (w', some zeroHandle, { ret := some 0 }) ∧ w'.heap = w.heap := by
  cases k <;> simp [callStep, ctrInit, parInit, World.alloc, hf, hb, bind, Except.bind, pure, Except.pure, zeroHandle]

/-- `init` otherwise: a fresh live context of the right type is appended to the heap and the object owns it -/
theorem init_ok (bd : Build) (w : World) (k : Kind) (old : Handle) (p : Probes) (hf : w.failAt ≠ some w.allocCount) :
    ∃ w' a h', callStep bd w k (some old) (.init p) = .ok (w', some h', { ret := some 1 }) ∧ h'.ctx = .ptr w.heap.length ∧
      w'.heap = w.heap ++ [a] ∧ a.live = true ∧ a.val.shape = k.shape ∧ h'.vtable ≠ .garbage ∧ (∀ f, k = .ctr f → ∃ be, h'.vtable = .be be) := by
  cases k with
  | ctr f =>
    simp only [callStep, ctrInit, World.alloc, if_neg hf]
    exact ⟨_, _, _, rfl, rfl, rfl, rfl, ctrZero_shape _ _ _, nofun, fun _ _ => ⟨_, rfl⟩⟩
  | par f =>
    simp only [callStep, parInit, World.alloc, if_neg hf]
    refine ⟨_, _, _, rfl, rfl, rfl, rfl, parZero_shape _, ?_, nofun⟩
    dsimp only; split <;> nofun

/-- `cleanup` on an object that owns nothing -/
theorem cleanup_inert (bd : Build) (w : World) (k : Kind) (h : Handle) (hin : Inert h) :
    ∃ h', callStep bd w k (some h) .cleanup = .ok (w, some h', {}) ∧ Inert h' := by
  obtain ⟨hc, hv⟩ := hin
  cases k with
  | par f => exact ⟨h, by simp [callStep, parCleanup, hc, bind, Except.bind, pure, Except.pure], hc, hv⟩
  | ctr f =>
    cases hvt : h.vtable with
    | garbage => exact absurd hvt hv
    | null => exact ⟨h, by simp [callStep, ctrCleanup, dispatch, hvt, bind, Except.bind, pure, Except.pure], hc, hv⟩
    | be b => exact ⟨{ h with vtable := .null }, by simp [callStep, ctrCleanup, dispatch, hvt, hc, bind, Except.bind, pure, Except.pure], hc, nofun⟩

theorem wipe_other (w : World) {id i : Nat} (st cl : Nat) (h : id ≠ i) : (w.wipeAndFree id st cl).heap[i]? = w.heap[i]? :=
  List.getElem?_modify_ne _ _ h

theorem wipe_self {w : World} {id : Nat} {a : Alloc} (ha : w.heap[id]? = some a) (st cl : Nat) :
    (w.wipeAndFree id st cl).heap[id]? = some { a with live := false, val := .wiped, zeroAtFree := decide (cl ≥ st) } := by
  show (w.heap.modify id _)[id]? = _
  rw [List.getElem?_modify_eq, ha]; rfl

/-- `cleanup` on a usable object that owns a context: the context is wiped over at least its size, and released -/
theorem cleanup_owned (bd : Build) (hs : bd.sizes.WipeOK) (w : World) (k : Kind) (h : Handle) (hwf : WFH w k h) (id : Nat)
    (hc : h.ctx = .ptr id) :
    ∃ st cl h', st ≤ cl ∧ callStep bd w k (some h) .cleanup = .ok (w.wipeAndFree id st cl, some h', {}) ∧ Inert h' := by
  obtain ⟨a, ha, hl, -, hvt⟩ := hwf.2.2 id hc
  cases k with
  | ctr f =>
    obtain ⟨be, hbe⟩ := hvt f rfl
    refine ⟨_, _, { h with vtable := .null, ctx := .null }, hs.1 f be, ?_, rfl, nofun⟩
    simp [callStep, ctrCleanup, dispatch, hbe, hc, bind, Except.bind, pure, Except.pure, deref_ok ha hl]
  | par f =>
    refine ⟨_, _, { h with ctx := .null }, hs.2 f, ?_, rfl, hwf.1⟩
    simp [callStep, parCleanup, hc, bind, Except.bind, pure, Except.pure, deref_ok ha hl]

/-- `cleanup` on a usable object: the context it owns, if any, is dead and was wiped; no other block changes -/
theorem cleanup_ok (bd : Build) (hs : bd.sizes.WipeOK) (w : World) (k : Kind) (h : Handle) (hwf : WFH w k h) :
    ∃ w' h', callStep bd w k (some h) .cleanup = .ok (w', some h', {}) ∧ Inert h' ∧
      (∀ id, h.ctx = .ptr id → ∃ a', w'.heap[id]? = some a' ∧ a'.live = false ∧ a'.zeroAtFree = true) ∧
      (∀ id, h.ctx ≠ .ptr id → w'.heap[id]? = w.heap[id]?) := by
  cases hcx : h.ctx with
  | garbage => exact absurd hcx hwf.2.1
  | null =>
    obtain ⟨h', hcall, hin⟩ := cleanup_inert bd w k h ⟨hcx, hwf.1⟩
    exact ⟨w, h', hcall, hin, nofun, fun _ _ => rfl⟩
  | ptr id =>
    obtain ⟨st, cl, h', hsz, hcall, hin⟩ := cleanup_owned bd hs w k h hwf id hcx
    obtain ⟨a, ha, -⟩ := hwf.2.2 id hcx
    refine ⟨_, h', hcall, hin, fun id' hid' => ?_, fun id' hne => wipe_other _ _ _ fun e => hne (e ▸ rfl)⟩
    cases hid'
    exact ⟨_, wipe_self ha st cl, rfl, decide_eq_true hsz⟩

/-! ## the invariant -/

structure Inv (s : Sys) : Prop where
  /-- an initialised or zeroed object is usable -/
  wf : ∀ (j : Nat) (o : Obj), s.objs[j]? = some o → o.ready = true → WFH s.w o.kind o.h
  /-- an object that was never initialised owns nothing -/
  fresh : ∀ (j : Nat) (o : Obj), s.objs[j]? = some o → o.ready = false → ∀ id, o.h.ctx ≠ .ptr id
  /-- no context has two owners -/
  inj : ∀ (i j : Nat) (oi oj : Obj) (id : Nat), s.objs[i]? = some oi → s.objs[j]? = some oj → oi.h.ctx = .ptr id → oj.h.ctx = .ptr id → i = j
  /-- every live context has an owner (nothing is leaked) -/
  noleak : ∀ (id : Nat) (a : Alloc), s.w.heap[id]? = some a → a.live = true → ∃ (j : Nat) (o : Obj), s.objs[j]? = some o ∧ o.h.ctx = .ptr id
  /-- every block handed back to the allocator was all-zero at that moment -/
  wiped : ∀ (id : Nat) (a : Alloc), s.w.heap[id]? = some a → a.live = false → a.zeroAtFree = true

theorem inv_init : Inv {} :=
  { wf := by intro j o h; simp at h, fresh := by intro j o h; simp at h, inj := by intro i j oi oj id h; simp at h,
    noleak := by intro id a h; simp at h, wiped := by intro id a h; simp at h }

/-- the assumptions on the build under which the object-layer properties hold: the `init`
functions check their argument and leave an inert object on failure (repairs D6, D7), and every
cleanup wipes at least the bytes that were requested (from the source facts) -/
structure Good (bd : Build) : Prop where
  parNull : bd.parInitNullCheck = true
  clears : bd.initClearsOnFail = true
  wipe : bd.sizes.WipeOK

theorem goodBuild_good (t : Tag) : Good (goodBuild t) := ⟨rfl, rfl, factsSizes_wipeOK⟩

/-- ids owned by objects are valid heap indices -/
theorem Inv.owned_lt {s : Sys} (hinv : Inv s) {j : Nat} {o : Obj} {id : Nat} (ho : s.objs[j]? = some o) (hid : o.h.ctx = .ptr id) :
    ∃ a, s.w.heap[id]? = some a ∧ a.live = true ∧ id < s.w.heap.length := by
  cases hr : o.ready with
  | false => exact absurd hid (hinv.fresh j o ho hr id)
  | true =>
    obtain ⟨a, ha, hl, -⟩ := (hinv.wf j o ho hr).2.2 id hid
    exact ⟨a, ha, hl, (List.getElem?_eq_some_iff.mp ha).1⟩

theorem getElem?_concat_ne {α : Type} {l : List α} (x : α) {i : Nat} (h : i ≠ l.length) : (l ++ [x])[i]? = l[i]? := by
  rcases Nat.lt_or_gt_of_ne h with hi | hi
  · exact List.getElem?_append_left hi
  · rw [List.getElem?_eq_none (by simp; omega), List.getElem?_eq_none (by omega)]

theorem getElem?_concat {α : Type} {l : List α} {x y : α} {i : Nat} (h : (l ++ [x])[i]? = some y) :
    l[i]? = some y ∨ (i = l.length ∧ y = x) := by
  by_cases hi : i = l.length
  · right; subst hi; simpa using h.symm
  · left; rwa [getElem?_concat_ne x hi] at h

theorem step_declare (s : Sys) (hinv : Inv s) (k : Kind) (h : Handle) (hal : ∀ id, h.ctx ≠ .ptr id) :
    Inv { s with objs := s.objs ++ [{ kind := k, h := h, ready := decide (h = zeroHandle) }] } := by
  refine { wf := ?_, fresh := ?_, inj := ?_, noleak := ?_, wiped := hinv.wiped }
  · intro j o ho hr
    rcases getElem?_concat ho with h1 | ⟨-, rfl⟩
    · exact hinv.wf j o h1 hr
    · exact Inert.wfh (of_decide_eq_true hr ▸ inert_zero) _ _
  · intro j o ho hr
    rcases getElem?_concat ho with h1 | ⟨-, rfl⟩
    · exact hinv.fresh j o h1 hr
    · exact hal
  · intro i j oi oj id hi hj hci hcj
    rcases getElem?_concat hi with h1 | ⟨-, rfl⟩
    · rcases getElem?_concat hj with h2 | ⟨-, rfl⟩
      · exact hinv.inj i j oi oj id h1 h2 hci hcj
      · exact absurd hcj (hal id)
    · exact absurd hci (hal id)
  · intro id a ha hl
    obtain ⟨j, o, ho, hc⟩ := hinv.noleak id a ha hl
    exact ⟨j, o, by rw [List.getElem?_append_left (List.getElem?_eq_some_iff.mp ho).1]; exact ho, hc⟩

/-- objects after a call on object `j` that leaves handle `hd` behind -/
def updObjs (objs : List Obj) (j : Nat) (hd : Handle) (init : Bool) : List Obj :=
  objs.modify j (fun o => { o with h := hd, ready := o.ready || init })

theorem updObjs_self {objs : List Obj} {j : Nat} {o : Obj} (ho : objs[j]? = some o) (hd : Handle) (init : Bool) :
    (updObjs objs j hd init)[j]? = some { o with h := hd, ready := o.ready || init } := by
  rw [updObjs, List.getElem?_modify_eq, ho]; rfl

theorem updObjs_other (objs : List Obj) {j i : Nat} (hd : Handle) (init : Bool) (h : j ≠ i) :
    (updObjs objs j hd init)[i]? = objs[i]? :=
  List.getElem?_modify_ne _ _ h

/-- **A call on object `j` preserves the invariant** if it leaves a usable handle `h'` and changes the heap only where the
object's old or new handle points: a cell given up is dead and was wiped, a cell acquired is new. -/
theorem Inv.update {s : Sys} (hinv : Inv s) {j : Nat} {o : Obj} (ho : s.objs[j]? = some o) {w' : World} {h' : Handle} {b : Bool}
    (hr : (o.ready || b) = true) (hwf : WFH w' o.kind h')
    (hframe : ∀ i, o.h.ctx ≠ .ptr i → h'.ctx ≠ .ptr i → w'.heap[i]? = s.w.heap[i]?)
    (hrel : ∀ id, o.h.ctx = .ptr id → h'.ctx ≠ .ptr id → ∃ a, w'.heap[id]? = some a ∧ a.live = false ∧ a.zeroAtFree = true)
    (hacq : ∀ id, h'.ctx = .ptr id → o.h.ctx ≠ .ptr id → s.w.heap.length ≤ id) :
    Inv { w := w', objs := updObjs s.objs j h' b } := by
  -- what another object owns is neither given up nor acquired by this call
  have other : ∀ {i oi id}, j ≠ i → s.objs[i]? = some oi → oi.h.ctx = .ptr id → w'.heap[id]? = s.w.heap[id]? ∧ h'.ctx ≠ .ptr id := by
    intro i oi id hne hi hid
    have h1 : o.h.ctx ≠ .ptr id := fun h => hne (hinv.inj j i o oi id ho hi h hid)
    obtain ⟨_, _, _, hlt⟩ := hinv.owned_lt hi hid
    have h2 : h'.ctx ≠ .ptr id := fun h => Nat.not_le_of_lt hlt (hacq id h h1)
    exact ⟨hframe id h1 h2, h2⟩
  have split : ∀ i oi, (updObjs s.objs j h' b)[i]? = some oi →
      (j = i ∧ oi = { o with h := h', ready := o.ready || b }) ∨ (j ≠ i ∧ s.objs[i]? = some oi) := by
    intro i oi hi
    by_cases hji : j = i
    · subst hji; rw [updObjs_self ho] at hi; exact Or.inl ⟨rfl, (Option.some.inj hi).symm⟩
    · rw [updObjs_other _ _ _ hji] at hi; exact Or.inr ⟨hji, hi⟩
  refine { wf := ?_, fresh := ?_, inj := ?_, noleak := ?_, wiped := ?_ }
  · intro i oi hi hri
    rcases split i oi hi with ⟨-, rfl⟩ | ⟨hne, hi⟩
    · exact hwf
    · obtain ⟨h1, h2, h3⟩ := hinv.wf i oi hi hri
      exact ⟨h1, h2, fun id hid => by rw [(other hne hi hid).1]; exact h3 id hid⟩
  · intro i oi hi hri
    rcases split i oi hi with ⟨-, rfl⟩ | ⟨-, hi⟩
    · rw [hr] at hri; cases hri
    · exact hinv.fresh i oi hi hri
  · intro i1 i2 o1 o2 id h1 h2 c1 c2
    rcases split i1 o1 h1 with ⟨e1, rfl⟩ | ⟨n1, h1⟩ <;> rcases split i2 o2 h2 with ⟨e2, rfl⟩ | ⟨n2, h2⟩
    · exact e1.symm.trans e2
    · exact absurd c1 (other n2 h2 c2).2
    · exact absurd c2 (other n1 h1 c1).2
    · exact hinv.inj i1 i2 o1 o2 id h1 h2 c1 c2
  · intro id a ha hl
    by_cases hn : h'.ctx = .ptr id
    · exact ⟨j, _, updObjs_self ho _ _, hn⟩
    · by_cases hold : o.h.ctx = .ptr id
      · obtain ⟨a', ha', hd, -⟩ := hrel id hold hn
        rw [ha] at ha'; cases ha'; rw [hl] at hd; cases hd
      · rw [hframe id hold hn] at ha
        obtain ⟨j0, o0, h0, c0⟩ := hinv.noleak id a ha hl
        have hne : j ≠ j0 := fun e => hold (by subst e; rw [ho] at h0; cases h0; exact c0)
        exact ⟨j0, o0, by rw [updObjs_other _ _ _ hne]; exact h0, c0⟩
  · intro id a ha hl
    by_cases hn : h'.ctx = .ptr id
    · obtain ⟨a', ha', hl', -⟩ := hwf.2.2 id hn
      rw [ha] at ha'; cases ha'; rw [hl] at hl'; cases hl'
    · by_cases hold : o.h.ctx = .ptr id
      · obtain ⟨a', ha', -, hz⟩ := hrel id hold hn
        rw [ha] at ha'; cases ha'; exact hz
      · rw [hframe id hold hn] at ha
        exact hinv.wiped id a ha hl

theorem store_get_ne (w : World) {p : PtrVal} {i : Nat} (v? : Option CtxVal) (h : p ≠ .ptr i) : (store w p v?).heap[i]? = w.heap[i]? := by
  cases v? with
  | none => rfl
  | some v =>
    cases p with
    | null => rfl
    | garbage => rfl
    | ptr id => exact List.getElem?_modify_ne _ _ fun e => h (e ▸ rfl)

/-- storing a value of the right type into a context keeps every handle usable -/
theorem WFH.store {w : World} {k : Kind} {h : Handle} (hwf : WFH w k h) {p : PtrVal} {v? : Option CtxVal}
    (hsame : ∀ v id, v? = some v → p = .ptr id → h.ctx = .ptr id → v.shape = k.shape) : WFH (store w p v?) k h := by
  obtain ⟨h1, h2, h3⟩ := hwf
  refine ⟨h1, h2, fun id hid => ?_⟩
  obtain ⟨a, ha, hl, hsh, hbe⟩ := h3 id hid
  by_cases e : p = .ptr id
  · subst e
    cases v? with
    | none => exact ⟨a, ha, hl, hsh, hbe⟩
    | some v => exact ⟨{ a with val := v }, by simp [Properties.store, World.setVal, ha], hl, hsame v id rfl rfl hid, hbe⟩
  · exact ⟨a, by rw [store_get_ne _ _ e]; exact ha, hl, hsh, hbe⟩

theorem step_call_eq {bd : Build} {s : Sys} {k : Kind} {j : Nat} {c : Call} {o : Obj} (ho : s.objs[j]? = some o)
    {w' : World} {hd : Handle} {out : Out} (hcall : callStep bd s.w k (some o.h) c = .ok (w', some hd, out)) :
    stepSys bd s (.call k (some j) c) = .ok ({ w := w', objs := updObjs s.objs j hd c.isInit }, out) := by
  simp [stepSys, ho, hcall, bind, Except.bind, pure, Except.pure, updObjs]

theorem step_null_eq {bd : Build} {s : Sys} {k : Kind} {c : Call} {out : Out} (hcall : callStep bd s.w k none c = .ok (s.w, none, out)) :
    stepSys bd s (.call k none c) = .ok (s, out) := by
  simp [stepSys, hcall, bind, Except.bind, pure, Except.pure]

/-- **Safety of the object layer**: from any state satisfying the invariant, every allowed
operation completes without a fault (no wild, null or freed pointer is dereferenced, nothing is
freed twice) and re-establishes the invariant. -/
theorem step_ok (bd : Build) (hg : Good bd) (s : Sys) (hinv : Inv s) (op : Op) (hal : Allowed s op) :
    ∃ s' out, stepSys bd s op = .ok (s', out) ∧ Inv s' := by
  cases op with
  | declare k h => exact ⟨_, _, rfl, step_declare s hinv k h hal⟩
  | failAt n => exact ⟨_, _, rfl, ⟨hinv.wf, hinv.fresh, hinv.inj, hinv.noleak, hinv.wiped⟩⟩
  | call k i c =>
    cases i with
    | none =>
      obtain ⟨out, hcall, -⟩ := call_null bd hg.parNull s.w k c
      exact ⟨s, out, step_null_eq hcall, hinv⟩
    | some j =>
      obtain ⟨o, ho, rfl, hc⟩ := hal
      rcases call_cases c with ⟨p, rfl⟩ | rfl | ⟨hi, hcl⟩
      · have hown : ∀ id, o.h.ctx ≠ .ptr id := hc
        by_cases hf : s.w.failAt = some s.w.allocCount
        · obtain ⟨w', hcall, hheap⟩ := init_fail bd hg.clears s.w o.kind o.h p hf
          exact ⟨_, _, step_call_eq ho hcall, hinv.update ho (Bool.or_true _) (inert_zero.wfh _ _)
            (fun i _ _ => by rw [hheap]) (fun id hid => absurd hid (hown id)) (fun _ hid => PtrVal.noConfusion hid)⟩
        · obtain ⟨w', a, h', hcall, hp, hheap, hl, hsh, hvt, hbe⟩ := init_ok bd s.w o.kind o.h p hf
          refine ⟨_, _, step_call_eq ho hcall, hinv.update ho (Bool.or_true _) ⟨hvt, by rw [hp]; nofun, ?_⟩ ?_
            (fun id hid => absurd hid (hown id)) (fun id hid _ => by rw [hp] at hid; cases hid; exact Nat.le_refl _)⟩
          · intro id hid
            rw [hp] at hid; cases hid
            exact ⟨a, by rw [hheap]; simp, hl, hsh, hbe⟩
          · intro i _ hi
            rw [hheap, getElem?_concat_ne a fun e => hi (by rw [hp, e])]
      · obtain ⟨w', h', hcall, hin, hrel, hfr⟩ := cleanup_ok bd hg.wipe s.w o.kind o.h (hinv.wf j o ho hc)
        exact ⟨_, _, step_call_eq ho hcall, hinv.update ho ((Bool.or_false _).trans hc) (hin.wfh _ _) (fun i hi _ => hfr i hi)
          (fun id hid _ => hrel id hid) (fun id hid => by rw [hin.1] at hid; cases hid)⟩
      · rw [hi] at hc
        have hwf := hinv.wf j o ho hc
        obtain ⟨v?, out, hcall, hq, -⟩ := (call_spec bd o.kind o.h c hi hcl).total s.w hwf
        exact ⟨_, out, step_call_eq ho hcall, hinv.update ho (by rw [hc]; rfl) (hwf.store fun v _ hv _ _ => (hq.1 v hv).1)
          (fun i hi _ => store_get_ne _ _ hi) (fun _ h1 h2 => absurd h1 h2) (fun _ h1 h2 => absurd h1 h2)⟩

/-- the same for whole histories: every allowed history runs to completion without a fault and
ends in a state satisfying the invariant -/
inductive AllowedRun (bd : Build) : Sys → List Op → Prop
  | nil (s : Sys) : AllowedRun bd s []
  | cons (s : Sys) (op : Op) (ops : List Op) (h : Allowed s op)
      (hrest : ∀ s' out, stepSys bd s op = .ok (s', out) → AllowedRun bd s' ops) : AllowedRun bd s (op :: ops)

theorem run_ok (bd : Build) (hg : Good bd) (ops : List Op) (s : Sys) (hinv : Inv s) (hal : AllowedRun bd s ops) :
    ∃ s' outs, runSys bd s ops = .ok (s', outs) ∧ Inv s' := by
  induction ops generalizing s with
  | nil => exact ⟨s, [], rfl, hinv⟩
  | cons op ops ih =>
    cases hal with
    | cons _ _ _ h hrest =>
      obtain ⟨s1, out, hstep, hinv1⟩ := step_ok bd hg s hinv op h
      obtain ⟨s2, outs, hrun, hinv2⟩ := ih s1 hinv1 (hrest s1 out hstep)
      exact ⟨s2, out :: outs, by simp [runSys, hstep, hrun, bind, Except.bind, pure, Except.pure], hinv2⟩

end SkinnyVerif.Properties
