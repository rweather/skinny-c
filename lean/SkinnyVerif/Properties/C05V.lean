/-
C05 / C06, vector CTR back ends: the per-lane counter increments.

The SIMD CTR contexts keep their 4 or 8 lane counters in a *strided* image (row `r` of lane `c` holds
bytes `4r..4r+3` - or `2r..2r+1` - of counter `c`).  `*_ctr_increment(counter, column, inc)` adds `inc`
to one column.  The translator regenerates that function for every constant column from the four
vector CTR files on every run; the theorems below say, for every image, every column and every
increment that the 32-bit accumulator can hold (`inc + 255 < 2^32`; the code uses 1..8):

* the column, read as a big-endian number, becomes `(old + inc) mod 2^(8·bs)` - carries through every
  byte and wrap-around included;
* every byte of the image outside the column is unchanged - so the other lane counters keep their values.

This is the obligation the "B-lane" state machine of `Properties/C06.lean` assumes of the vector code
(`IncSpec` per lane).  The positions `pos*` are the layout formula, not read off the code.
-/
import SkinnyVerif.Lemmas.VecCounter
import SkinnyVerif.Gen.Facts

namespace SkinnyVerif.Properties
open SkinnyVerif SkinnyVerif.Gen SkinnyVerif.Lemmas

/-- a column of the strided image, as the number the CTR mode counts with (`qs` least significant byte first) -/
abbrev columnValue {w : Nat} (qs : List Nat) (img : BitVec w) : Nat := colVal qs img

/-- **lane increment, Skinny-128, 128-bit vectors** (`skinny128-ctr-vec128.c`, four lane counters): column `c` becomes
`(old + inc) mod 2^128`, every other byte of the image - in particular every other lane counter - is unchanged -/
theorem C05_v128c_increment (c : Nat) (hc : c < 4) (img : BitVec 512) (k : BitVec 32) :
    (k.toNat + 255 < 2 ^ 32 → columnValue (pos128 c) (v128cInc c img k) = (columnValue (pos128 c) img + k.toNat) % 2 ^ 128) ∧
    (∀ q, q < 64 → q ∉ pos128 c → lane 8 q (v128cInc c img k) = lane 8 q img) ∧
    (∀ c', c' < 4 → c' ≠ c → columnValue (pos128 c') (v128cInc c img k) = columnValue (pos128 c') img) :=
  strided_increment 16 4 4 pos128 v128cInc (fun _ => rfl) (fun _ => mem_pos128) v128cInc_chain v128cInc_rows c hc img k

/-- **lane increment, Skinny-128, 256-bit vectors** (`skinny128-ctr-vec256.c`, eight lane counters): column `c` becomes
`(old + inc) mod 2^128`, every other byte of the image - in particular every other lane counter - is unchanged -/
theorem C05_v256c_increment (c : Nat) (hc : c < 8) (img : BitVec 1024) (k : BitVec 32) :
    (k.toNat + 255 < 2 ^ 32 → columnValue (pos256 c) (v256cInc c img k) = (columnValue (pos256 c) img + k.toNat) % 2 ^ 128) ∧
    (∀ q, q < 128 → q ∉ pos256 c → lane 8 q (v256cInc c img k) = lane 8 q img) ∧
    (∀ c', c' < 8 → c' ≠ c → columnValue (pos256 c') (v256cInc c img k) = columnValue (pos256 c') img) :=
  strided_increment 32 4 8 pos256 v256cInc (fun _ => rfl) (fun _ => mem_pos256) v256cInc_chain v256cInc_rows c hc img k

/-- **lane increment, Skinny-64, 128-bit vectors** (`skinny64-ctr-vec128.c`, eight lane counters): column `c` becomes
`(old + inc) mod 2^64`, every other byte of the image - in particular every other lane counter - is unchanged -/
theorem C05_v64c_increment (c : Nat) (hc : c < 8) (img : BitVec 512) (k : BitVec 32) :
    (k.toNat + 255 < 2 ^ 32 → columnValue (pos64 c) (v64cInc c img k) = (columnValue (pos64 c) img + k.toNat) % 2 ^ 64) ∧
    (∀ q, q < 64 → q ∉ pos64 c → lane 8 q (v64cInc c img k) = lane 8 q img) ∧
    (∀ c', c' < 8 → c' ≠ c → columnValue (pos64 c') (v64cInc c img k) = columnValue (pos64 c') img) :=
  strided_increment 16 2 8 pos64 v64cInc (fun _ => rfl) (fun _ => mem_pos64) v64cInc_chain v64cInc_rows c hc img k

/-- **lane increment, Mantis, 128-bit vectors** (`mantis-ctr-vec128.c`, eight lane counters): column `c` becomes
`(old + inc) mod 2^64`, every other byte of the image - in particular every other lane counter - is unchanged -/
theorem C05_vmc_increment (c : Nat) (hc : c < 8) (img : BitVec 512) (k : BitVec 32) :
    (k.toNat + 255 < 2 ^ 32 → columnValue (pos64m c) (vmcInc c img k) = (columnValue (pos64m c) img + k.toNat) % 2 ^ 64) ∧
    (∀ q, q < 64 → q ∉ pos64m c → lane 8 q (vmcInc c img k) = lane 8 q img) ∧
    (∀ c', c' < 8 → c' ≠ c → columnValue (pos64m c') (vmcInc c img k) = columnValue (pos64m c') img) :=
  strided_increment 16 2 8 pos64m vmcInc (fun _ => rfl) (fun _ => mem_pos64) vmcInc_chain vmcInc_rows c hc img k

/-- the hypothesis on the increment is met by every increment the code uses (lane stagger 1..7, batch step 4 or 8) -/
example : ∀ k : Nat, k ≤ 8 → (BitVec.ofNat 32 k).toNat + 255 < 2 ^ 32 := by
  intro k hk
  simp only [BitVec.toNat_ofNat]
  omega

/-- non-vacuity: a concrete image whose column 3 carries through fifteen bytes -/
example : columnValue (pos128 3) (v128cInc 3 (BitVec.allOnes 512) 1#32) = 0 := by decide +kernel

/-! ## any sequence of lane increments

The CTR code applies lane increments in sequences: the stagger of `set_counter` (`inc 1 1; inc 2 2; …`), the batch
step of `encrypt` (`inc j pending` for every lane), the resynchronisation after a key or tweak change.  For *every*
sequence of (column, increment) pairs, each lane counter ends up at its initial value plus the sum of the increments
addressed to it, modulo 2^(8·bs) - whatever the order and the interleaving with increments of other lanes. -/

/-- a family of per-column increments on a strided image together with its specification -/
structure IncFamily (w : Nat) where
  inc : Nat → BitVec w → BitVec 32 → BitVec w
  pos : Nat → List Nat
  n : Nat
  M : Nat
  len : Nat
  hM : M = 256 ^ len
  hlen : ∀ c, c < n → (pos c).length = len
  spec : ∀ c, c < n → ∀ img k,
    (k.toNat + 255 < 2 ^ 32 → columnValue (pos c) (inc c img k) = (columnValue (pos c) img + k.toNat) % M) ∧
    (∀ c', c' < n → c' ≠ c → columnValue (pos c') (inc c img k) = columnValue (pos c') img)

theorem valLE_lt (l : List Nat) (h : ∀ b ∈ l, b < 256) : valLE l < 256 ^ l.length := by
  induction l with
  | nil => simp [valLE]
  | cons b bs ih =>
    have hb : b < 256 := h b (by simp)
    have := ih (fun x hx => h x (by simp [hx]))
    simp only [valLE, List.length_cons, Nat.pow_succ]
    omega

theorem columnValue_lt {w : Nat} (qs : List Nat) (img : BitVec w) : columnValue qs img < 256 ^ qs.length := by
  have := valLE_lt (qs.map (fun q => (lane 8 q img).toNat)) (by
    intro b hb
    rcases List.mem_map.mp hb with ⟨q, _, rfl⟩
    exact (lane 8 q img).isLt)
  simpa [columnValue, colVal] using this

def applyIncs {w : Nat} (F : IncFamily w) (img : BitVec w) (ops : List (Nat × BitVec 32)) : BitVec w :=
  ops.foldl (fun im op => F.inc op.1 im op.2) img

/-- the sum of the increments addressed to column `j` -/
def totalFor (ops : List (Nat × BitVec 32)) (j : Nat) : Nat :=
  (ops.map (fun op => if op.1 = j then op.2.toNat else 0)).sum

theorem applyIncs_column {w : Nat} (F : IncFamily w) (ops : List (Nat × BitVec 32))
    (hops : ∀ op ∈ ops, op.1 < F.n ∧ op.2.toNat + 255 < 2 ^ 32) (img : BitVec w) (j : Nat) (hj : j < F.n) :
    columnValue (F.pos j) (applyIncs F img ops) = (columnValue (F.pos j) img + totalFor ops j) % F.M := by
  induction ops generalizing img with
  | nil =>
    have := columnValue_lt (F.pos j) img
    rw [F.hlen j hj, ← F.hM] at this
    simp [applyIncs, totalFor, Nat.mod_eq_of_lt this]
  | cons op rest ih =>
    have hop := hops op (by simp)
    have ih' := ih (fun o ho => hops o (by simp [ho])) (F.inc op.1 img op.2)
    simp only [applyIncs, List.foldl_cons] at ih' ⊢
    rw [ih']
    have hs := F.spec op.1 hop.1 img op.2
    simp only [totalFor, List.map_cons, List.sum_cons]
    by_cases hc : op.1 = j
    · subst hc
      rw [hs.1 hop.2]
      simp only [if_true]
      rw [Nat.mod_add_mod, Nat.add_assoc]
    · rw [hs.2 j hj (fun h => hc h.symm)]
      simp only [hc, if_false, Nat.zero_add]

/-- the four families of the vector CTR files -/
def fam128 : IncFamily 512 := ⟨v128cInc, pos128, 4, 2 ^ 128, 16, by decide, fun c hc => by simp [pos128],
  fun c hc img k => ⟨(C05_v128c_increment c hc img k).1, (C05_v128c_increment c hc img k).2.2⟩⟩
def fam256 : IncFamily 1024 := ⟨v256cInc, pos256, 8, 2 ^ 128, 16, by decide, fun c hc => by simp [pos256],
  fun c hc img k => ⟨(C05_v256c_increment c hc img k).1, (C05_v256c_increment c hc img k).2.2⟩⟩
def fam64 : IncFamily 512 := ⟨v64cInc, pos64, 8, 2 ^ 64, 8, by decide, fun c hc => by simp [pos64],
  fun c hc img k => ⟨(C05_v64c_increment c hc img k).1, (C05_v64c_increment c hc img k).2.2⟩⟩
def famM : IncFamily 512 := ⟨vmcInc, pos64m, 8, 2 ^ 64, 8, by decide, fun c hc => by simp [pos64m],
  fun c hc img k => ⟨(C05_vmc_increment c hc img k).1, (C05_vmc_increment c hc img k).2.2⟩⟩

/-- **every sequence of lane increments, all four vector CTR files** -/
theorem C05_lane_increment_sequences :
    (∀ ops img j, (∀ op ∈ ops, op.1 < 4 ∧ op.2.toNat + 255 < 2 ^ 32) → j < 4 →
      columnValue (pos128 j) (applyIncs fam128 img ops) = (columnValue (pos128 j) img + totalFor ops j) % 2 ^ 128) ∧
    (∀ ops img j, (∀ op ∈ ops, op.1 < 8 ∧ op.2.toNat + 255 < 2 ^ 32) → j < 8 →
      columnValue (pos256 j) (applyIncs fam256 img ops) = (columnValue (pos256 j) img + totalFor ops j) % 2 ^ 128) ∧
    (∀ ops img j, (∀ op ∈ ops, op.1 < 8 ∧ op.2.toNat + 255 < 2 ^ 32) → j < 8 →
      columnValue (pos64 j) (applyIncs fam64 img ops) = (columnValue (pos64 j) img + totalFor ops j) % 2 ^ 64) ∧
    (∀ ops img j, (∀ op ∈ ops, op.1 < 8 ∧ op.2.toNat + 255 < 2 ^ 32) → j < 8 →
      columnValue (pos64m j) (applyIncs famM img ops) = (columnValue (pos64m j) img + totalFor ops j) % 2 ^ 64) :=
  ⟨fun ops img j h hj => applyIncs_column fam128 ops h img j hj, fun ops img j h hj => applyIncs_column fam256 ops h img j hj,
   fun ops img j h hj => applyIncs_column fam64 ops h img j hj, fun ops img j h hj => applyIncs_column famM ops h img j hj⟩

/-- the stagger of `skinny128_ctr_vec128_set_counter` (`inc 1 1; inc 2 2; inc 3 3`) followed by one batch step
(`inc j 4` for every lane): lane `j` holds `c_j + j + 4` -/
example (img : BitVec 512) (j : Nat) (hj : j < 4) :
    columnValue (pos128 j) (applyIncs fam128 img [(1, 1#32), (2, 2#32), (3, 3#32), (0, 4#32), (1, 4#32), (2, 4#32), (3, 4#32)]) =
      (columnValue (pos128 j) img + (j + 4)) % 2 ^ 128 := by
  rw [C05_lane_increment_sequences.1 _ img j (by decide) hj]
  nat_cases j 4 <;> rfl

/-! ## the increment calls the source actually makes

`tools/facts.py` reads, on every run, the list of `*_ctr_increment(counter, column, increment)` calls out of
`*_set_counter` and `*_encrypt` of each vector CTR file (`Gen.Facts.laneIncs`; increment `-1` = `ctx->pending`).
With the theorem above: after `set_counter`'s calls lane `j` is `j` ahead of lane 0 (the stagger), and the calls of
`encrypt` advance every lane by `pending` - for each of the four files, whatever order the calls are written in. -/

def callsOf (name : String) : List (Nat × Int) := ((Gen.Facts.laneIncs.find? (fun x => x.1 == name)).map (·.2)).getD []
def asOps (calls : List (Nat × Int)) (pending : Nat) : List (Nat × BitVec 32) :=
  calls.map (fun ci => (ci.1, BitVec.ofNat 32 (if ci.2 = -1 then pending else ci.2.toNat)))

/-- the calls are well-formed (literal columns in range, small increments) and add `want j` to lane `j` -/
def callsOK (n : Nat) (calls : List (Nat × Int)) (pending : Nat) (want : Nat → Nat) : Bool :=
  (asOps calls pending).all (fun op => decide (op.1 < n) && decide (op.2.toNat + 255 < 2 ^ 32)) &&
  (List.range n).all (fun j => totalFor (asOps calls pending) j == want j)

theorem C05_source_calls_checked :
    callsOK 4 (callsOf "skinny128-ctr-vec128.c:skinny128_ctr_vec128_set_counter") 0 (fun j => j) = true ∧
    callsOK 8 (callsOf "skinny128-ctr-vec256.c:skinny128_ctr_vec256_set_counter") 0 (fun j => j) = true ∧
    callsOK 8 (callsOf "skinny64-ctr-vec128.c:skinny64_ctr_vec128_set_counter") 0 (fun j => j) = true ∧
    callsOK 8 (callsOf "mantis-ctr-vec128.c:mantis_ctr_vec128_set_counter") 0 (fun j => j) = true ∧
    (List.range 9).all (fun p =>
      callsOK 4 (callsOf "skinny128-ctr-vec128.c:skinny128_ctr_vec128_encrypt") p (fun _ => p) &&
      callsOK 8 (callsOf "skinny128-ctr-vec256.c:skinny128_ctr_vec256_encrypt") p (fun _ => p) &&
      callsOK 8 (callsOf "skinny64-ctr-vec128.c:skinny64_ctr_vec128_encrypt") p (fun _ => p) &&
      callsOK 8 (callsOf "mantis-ctr-vec128.c:mantis_ctr_vec128_encrypt") p (fun _ => p)) = true := by
  decide +kernel

theorem callsOK_spec {w : Nat} (F : IncFamily w) (calls : List (Nat × Int)) (pending : Nat) (want : Nat → Nat)
    (h : callsOK F.n calls pending want = true) (img : BitVec w) (j : Nat) (hj : j < F.n) :
    columnValue (F.pos j) (applyIncs F img (asOps calls pending)) = (columnValue (F.pos j) img + want j) % F.M := by
  simp only [callsOK, Bool.and_eq_true, List.all_eq_true, decide_eq_true_eq, beq_iff_eq] at h
  rw [applyIncs_column F _ (fun op hop => h.1 op hop) img j hj, h.2 j (List.mem_range.mpr hj)]

/-- **the stagger written in `skinny128_ctr_vec128_set_counter`**: from an image whose four lanes hold the same block,
lane `j` ends at that block + `j`; **the batch step written in `..._encrypt`**: every lane advances by `pending` -/
theorem C05_vec128_stagger_and_step (img : BitVec 512) (j : Nat) (hj : j < 4) (p : Nat) (hp : p ≤ 8) :
    columnValue (pos128 j) (applyIncs fam128 img (asOps (callsOf "skinny128-ctr-vec128.c:skinny128_ctr_vec128_set_counter") 0)) =
      (columnValue (pos128 j) img + j) % 2 ^ 128 ∧
    columnValue (pos128 j) (applyIncs fam128 img (asOps (callsOf "skinny128-ctr-vec128.c:skinny128_ctr_vec128_encrypt") p)) =
      (columnValue (pos128 j) img + p) % 2 ^ 128 := by
  have hc := C05_source_calls_checked
  constructor
  · exact callsOK_spec fam128 _ 0 (fun j => j) hc.1 img j hj
  · have := (List.all_eq_true.mp hc.2.2.2.2) p (List.mem_range.mpr (by omega))
    simp only [Bool.and_eq_true] at this
    exact callsOK_spec fam128 _ p (fun _ => p) this.1.1.1 img j hj

end SkinnyVerif.Properties
