/-
C07 / C02 / C06, Mantis: the 128-bit vector back end of parallel ECB (`_mantis_parallel_crypt_vec128`,
eight blocks under eight tweaks per group), assembled from its translated pieces, processes block `j`
under tweak `j` exactly as the scalar `mantis_ecb_crypt_tweaked` does - for every key schedule image
(hence both modes), every round count, every input and every tweak array - and therefore as the
MANTIS specification (C02).

`vecMantis8` is the hand model of the loop structure and of GCC's element-wise vector semantics; the
pieces, the S-box and the round-constant table are regenerated from `src/mantis-parallel-vec128.c`.
-/
import SkinnyVerif.Lemmas.VecMantisCtr
import SkinnyVerif.Properties.C05V
import SkinnyVerif.Properties.C02

namespace SkinnyVerif.Properties
open SkinnyVerif SkinnyVerif.Gen SkinnyVerif.Impl SkinnyVerif.Lemmas

/-- **block `j` of the vector group = scalar tweaked Mantis on block `j` under tweak `j`** -/
theorem C07_mantis_vec128_block (ks : MantisKey) (input tweak : BitVec 512) (j : Nat) (hj : j < 8) (blk tw : Bytes)
    (hblk : image 64 blk = input.extractLsb' (64 * j) 64) (htw : image 64 tw = tweak.extractLsb' (64 * j) 64) :
    bytesOf 8 ((vecMantis8 ks.image ks.rounds input tweak).extractLsb' (64 * j) 64) =
      mantisCryptTweaked (opsMantis .c64le) ks tw blk := by
  rw [vecMantis8_lane _ _ _ _ j hj, mantisCryptTweaked_ref _ (mantisPieces .c64le), ← hblk, ← htw]
  rfl

/-- ... and therefore the specification's MANTIS-r under the `j`-th tweak -/
theorem C07_mantis_vec128_spec (ks0 : MantisKey) (key : Bytes) (hk : key.length = 16) (rounds : Nat) (hr : 5 ≤ rounds ∧ rounds ≤ 8) (mode : Int)
    (input tweak : BitVec 512) (j : Nat) (hj : j < 8) (blk tw : Bytes)
    (hblk : image 64 blk = input.extractLsb' (64 * j) 64) (htw : image 64 tw = tweak.extractLsb' (64 * j) 64) :
    let ks := (mantisSetKey (opsMantis .c64le) ks0 (some key) 16 rounds mode).2
    bytesOf 8 ((vecMantis8 ks.image ks.rounds input tweak).extractLsb' (64 * j) 64) = specCrypt mode rounds key tw blk := by
  intro ks
  rw [C07_mantis_vec128_block ks input tweak j hj blk tw hblk htw]
  exact (C02_mantis .c64le ks0 key tw blk hk rounds hr mode).2.2.1

/-! ## the keystream batch of the Mantis vector CTR back end (`mantis_ecb_encrypt_eight`) -/

/-- **keystream batch, Mantis on 128-bit vectors**: block `j` of the batch is `mantis_ecb_crypt` (the schedule's stored
tweak) of the counter block in column `j` of the strided image; that block's big-endian value is the column value of
`C05_vmc_increment` -/
theorem C06_mantis_vec128_keystream (ks : MantisKey) (img : BitVec 512) (j : Nat) (hj : j < 8) (blk : Bytes)
    (hblk : image 64 blk = laneSt img j) :
    bytesOf 8 ((vecMantisCtr8 ks.image ks.rounds img).extractLsb' (64 * j) 64) = mantisCrypt (opsMantis .c64le) ks blk ∧
    columnValue (pos64m j) img = valLE ((List.range 8).map (fun t => (lane 8 (7 - t) (laneSt img j)).toNat)) := by
  refine ⟨?_, vmc_column_value img j hj⟩
  rw [vecMantisCtr8_lane _ _ _ j hj, mantisCrypt_ref _ (mantisPieces .c64le), ← hblk, image_tweak]
  rfl

end SkinnyVerif.Properties
