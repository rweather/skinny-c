/-
C07 / C12, vector back ends of parallel ECB: the functions `_skinny128_parallel_encrypt_vec128` / `_decrypt_vec128`,
`…_vec256` and `_skinny64_parallel_encrypt_vec128` / `_decrypt_vec128`, assembled from their translated pieces - load
(explicit lanes), the round body applied to every lane (lane-generic translation), store (explicit
lanes) - process each block of a group exactly as the scalar block function of the C library does,
hence as the specification (C01).

The assemblies `vecEnc4` … are the hand model of the loop structure and of GCC's element-wise
vector semantics ("the round body acts on every lane separately"); everything inside the pieces is
regenerated from the vector files on every run.  All of them are instances of `batchG`
(`Lemmas/VecBatch.lean`), and the block theorems instances of `batchG_block`, with the three facts it
asks for proved of every translated load, round body and store (`Lemmas/VecRound.lean`, `Lemmas/VecLoadStore.lean`).
-/
import SkinnyVerif.Lemmas.VecRound
import SkinnyVerif.Lemmas.VecLoadStore
import SkinnyVerif.Properties.C01

namespace SkinnyVerif.Properties
open SkinnyVerif SkinnyVerif.Gen SkinnyVerif.Impl SkinnyVerif.Lemmas SkinnyVerif.Spec.Skinny

abbrev Rows32 := BitVec 32 × BitVec 32 × BitVec 32 × BitVec 32
abbrev Rows128 := BitVec 128 × BitVec 128 × BitVec 128 × BitVec 128

/-- element-wise semantics of the vector operators: a lane-generic function acts on every lane -/
def mapRows (f : Rows32 → Rows32) (rows : Rows128) : Rows128 :=
  (packLanes 32 128 (fun j => (f (laneRows rows j)).1) 4, packLanes 32 128 (fun j => (f (laneRows rows j)).2.1) 4,
   packLanes 32 128 (fun j => (f (laneRows rows j)).2.2.1) 4, packLanes 32 128 (fun j => (f (laneRows rows j)).2.2.2) 4)

/-- `_skinny128_parallel_encrypt_vec128` on one group of four blocks -/
def vecEnc4 (sched : List (BitVec 64)) (input : BitVec 512) : BitVec 512 :=
  let rows := sched.foldl (fun rws sk => mapRows (fun t => v128p_enc_round t.1 t.2.1 t.2.2.1 t.2.2.2 sk) rws) (v128p_enc_load input)
  v128p_enc_store rows.1 rows.2.1 rows.2.2.1 rows.2.2.2

def vecDec4 (sched : List (BitVec 64)) (input : BitVec 512) : BitVec 512 :=
  let rows := sched.foldl (fun rws sk => mapRows (fun t => v128p_dec_round t.1 t.2.1 t.2.2.1 t.2.2.2 sk) rws) (v128p_dec_load input)
  v128p_dec_store rows.1 rows.2.1 rows.2.2.1 rows.2.2.2

/-- block `j` of the vector result = the scalar 32-bit rounds on block `j` of the input -/
theorem vecEnc4_block (sched : List (BitVec 64)) (input : BitVec 512) (j : Nat) (hj : j < 4) :
    (vecEnc4 sched input).extractLsb' (128 * j) 128 =
      sched.foldl (fun st sk => skinny128_ecb_encrypt_round_32le st sk) (input.extractLsb' (128 * j) 128) :=
  batchG_block (r := 32) (.of_transposition packT_lanes (v128p_load_eq .enc) (vEnc128_scalar .p128) (v128p_store_eq .enc)) sched input j hj

theorem vecDec4_block (sched : List (BitVec 64)) (input : BitVec 512) (j : Nat) (hj : j < 4) :
    (vecDec4 sched input).extractLsb' (128 * j) 128 =
      sched.foldl (fun st sk => skinny128_ecb_decrypt_round_32le st sk) (input.extractLsb' (128 * j) 128) :=
  batchG_block (r := 32) (.of_transposition packT_lanes (v128p_load_eq .dec) (vDec128_scalar .p128) (v128p_store_eq .dec)) sched input j hj

/-- the schedule entries in the order the encryption loop walks them -/
def schedUp (ks : KeySched 64) : List (BitVec 64) := (List.range ks.rounds).map (fun i => ks.sched.getD i 0)
/-- ... and the decryption loop (from the last entry down) -/
def schedDown (ks : KeySched 64) : List (BitVec 64) := (List.range ks.rounds).map (fun i => ks.sched.getD (ks.rounds - 1 - i) 0)

/-- **C07 for the 128-bit vector back end**: each of the four blocks of a group is encrypted /
decrypted exactly as `skinny128_ecb_encrypt` / `_decrypt` of the 32-bit configuration does -/
theorem C07_vec128_block (ks : KeySched 64) (input : BitVec 512) (j : Nat) (hj : j < 4) (blk : Bytes)
    (hblk : image 128 blk = input.extractLsb' (128 * j) 128) :
    bytesOf 16 ((vecEnc4 (schedUp ks) input).extractLsb' (128 * j) 128) = ecbEncrypt (ops128 .c32le) p128 ks blk ∧
    bytesOf 16 ((vecDec4 (schedDown ks) input).extractLsb' (128 * j) 128) = ecbDecrypt (ops128 .c32le) p128 ks blk := by
  rw [vecEnc4_block _ _ j hj, vecDec4_block _ _ j hj, ← hblk]
  exact ⟨ecbEncrypt_fold (opsG128 .c32le) p128 ks blk, ecbDecrypt_fold (opsG128 .c32le) p128 ks blk⟩

/-- ... and therefore as the specification, for every key of a primary size -/
theorem C07_vec128_spec (ks0 : KeySched 64) (hlen : 56 ≤ ks0.sched.length) (key : Bytes)
    (hk : key.length = 16 ∨ key.length = 32 ∨ key.length = 48) (j2 j3 : BitVec 128)
    (input : BitVec 512) (j : Nat) (hj : j < 4) (blk : Bytes) (hblk : image 128 blk = input.extractLsb' (128 * j) 128) :
    let ks := (setKey (ops128 .c32le) guards128 p128 ks0 (some key) key.length j2 j3).2
    bytesOf 16 ((vecEnc4 (schedUp ks) input).extractLsb' (128 * j) 128) = encrypt128 key blk ∧
    bytesOf 16 ((vecDec4 (schedDown ks) input).extractLsb' (128 * j) 128) = decrypt128 key blk := by
  intro ks
  have h := C07_vec128_block ks input j hj blk hblk
  have c := C01_skinny128 .c32le ks0 hlen key blk hk j2 j3
  exact ⟨h.1.trans c.2.1, h.2.trans c.2.2⟩

/-! ## the 256-bit vector back end (`src/skinny128-parallel-vec256.c`): eight blocks per group -/

abbrev Rows256 := BitVec 256 × BitVec 256 × BitVec 256 × BitVec 256

def mapRows8 (f : Rows32 → Rows32) (rows : Rows256) : Rows256 :=
  (packLanes 32 256 (fun j => (f (laneRows8 rows j)).1) 8, packLanes 32 256 (fun j => (f (laneRows8 rows j)).2.1) 8,
   packLanes 32 256 (fun j => (f (laneRows8 rows j)).2.2.1) 8, packLanes 32 256 (fun j => (f (laneRows8 rows j)).2.2.2) 8)

/-- `_skinny128_parallel_encrypt_vec256` on one group of eight blocks -/
def vecEnc8 (sched : List (BitVec 64)) (input : BitVec 1024) : BitVec 1024 :=
  let rows := sched.foldl (fun rws sk => mapRows8 (fun t => v256p_enc_round t.1 t.2.1 t.2.2.1 t.2.2.2 sk) rws) (v256p_enc_load input)
  v256p_enc_store rows.1 rows.2.1 rows.2.2.1 rows.2.2.2

def vecDec8 (sched : List (BitVec 64)) (input : BitVec 1024) : BitVec 1024 :=
  let rows := sched.foldl (fun rws sk => mapRows8 (fun t => v256p_dec_round t.1 t.2.1 t.2.2.1 t.2.2.2 sk) rws) (v256p_dec_load input)
  v256p_dec_store rows.1 rows.2.1 rows.2.2.1 rows.2.2.2

theorem vecEnc8_block (sched : List (BitVec 64)) (input : BitVec 1024) (j : Nat) (hj : j < 8) :
    (vecEnc8 sched input).extractLsb' (128 * j) 128 =
      sched.foldl (fun st sk => skinny128_ecb_encrypt_round_32le st sk) (input.extractLsb' (128 * j) 128) :=
  batchG_block (r := 32) (.of_transposition packT_lanes (v256p_load_eq .enc) (vEnc128_scalar .p256) (v256p_store_eq .enc)) sched input j hj

theorem vecDec8_block (sched : List (BitVec 64)) (input : BitVec 1024) (j : Nat) (hj : j < 8) :
    (vecDec8 sched input).extractLsb' (128 * j) 128 =
      sched.foldl (fun st sk => skinny128_ecb_decrypt_round_32le st sk) (input.extractLsb' (128 * j) 128) :=
  batchG_block (r := 32) (.of_transposition packT_lanes (v256p_load_eq .dec) (vDec128_scalar .p256) (v256p_store_eq .dec)) sched input j hj

/-- **C07 for the 256-bit vector back end**: each of the eight blocks of a group is encrypted /
decrypted exactly as `skinny128_ecb_encrypt` / `_decrypt` of the 32-bit configuration does -/
theorem C07_vec256_block (ks : KeySched 64) (input : BitVec 1024) (j : Nat) (hj : j < 8) (blk : Bytes)
    (hblk : image 128 blk = input.extractLsb' (128 * j) 128) :
    bytesOf 16 ((vecEnc8 (schedUp ks) input).extractLsb' (128 * j) 128) = ecbEncrypt (ops128 .c32le) p128 ks blk ∧
    bytesOf 16 ((vecDec8 (schedDown ks) input).extractLsb' (128 * j) 128) = ecbDecrypt (ops128 .c32le) p128 ks blk := by
  rw [vecEnc8_block _ _ j hj, vecDec8_block _ _ j hj, ← hblk]
  exact ⟨ecbEncrypt_fold (opsG128 .c32le) p128 ks blk, ecbDecrypt_fold (opsG128 .c32le) p128 ks blk⟩

theorem C07_vec256_spec (ks0 : KeySched 64) (hlen : 56 ≤ ks0.sched.length) (key : Bytes)
    (hk : key.length = 16 ∨ key.length = 32 ∨ key.length = 48) (j2 j3 : BitVec 128)
    (input : BitVec 1024) (j : Nat) (hj : j < 8) (blk : Bytes) (hblk : image 128 blk = input.extractLsb' (128 * j) 128) :
    let ks := (setKey (ops128 .c32le) guards128 p128 ks0 (some key) key.length j2 j3).2
    bytesOf 16 ((vecEnc8 (schedUp ks) input).extractLsb' (128 * j) 128) = encrypt128 key blk ∧
    bytesOf 16 ((vecDec8 (schedDown ks) input).extractLsb' (128 * j) 128) = decrypt128 key blk := by
  intro ks
  have h := C07_vec256_block ks input j hj blk hblk
  have c := C01_skinny128 .c32le ks0 hlen key blk hk j2 j3
  exact ⟨h.1.trans c.2.1, h.2.trans c.2.2⟩

/-! ## Skinny-64, 128-bit vector back end (`src/skinny64-parallel-vec128.c`): eight blocks per group, 16-bit lanes -/

def mapRowsH (f : Rows16 → Rows16) (rows : Rows128) : Rows128 :=
  (packLanes 16 128 (fun j => (f (laneRowsH rows j)).1) 8, packLanes 16 128 (fun j => (f (laneRowsH rows j)).2.1) 8,
   packLanes 16 128 (fun j => (f (laneRowsH rows j)).2.2.1) 8, packLanes 16 128 (fun j => (f (laneRowsH rows j)).2.2.2) 8)

/-- `_skinny64_parallel_encrypt_vec128` on one group of eight blocks -/
def vecEnc8h (sched : List (BitVec 32)) (input : BitVec 512) : BitVec 512 :=
  let rows := sched.foldl (fun rws sk => mapRowsH (fun t => v64p_enc_round t.1 t.2.1 t.2.2.1 t.2.2.2 sk) rws) (v64p_enc_load input)
  v64p_enc_store rows.1 rows.2.1 rows.2.2.1 rows.2.2.2

def vecDec8h (sched : List (BitVec 32)) (input : BitVec 512) : BitVec 512 :=
  let rows := sched.foldl (fun rws sk => mapRowsH (fun t => v64p_dec_round t.1 t.2.1 t.2.2.1 t.2.2.2 sk) rws) (v64p_dec_load input)
  v64p_dec_store rows.1 rows.2.1 rows.2.2.1 rows.2.2.2

theorem vecEnc8h_block (sched : List (BitVec 32)) (input : BitVec 512) (j : Nat) (hj : j < 8) :
    (vecEnc8h sched input).extractLsb' (64 * j) 64 =
      sched.foldl (fun st sk => skinny64_ecb_encrypt_round_32le st sk) (input.extractLsb' (64 * j) 64) :=
  batchG_block (r := 16) (.of_transposition packTh_lanes (v64p_load_eq .enc) (vEnc64_scalar .p) (v64p_store_eq .enc)) sched input j hj

theorem vecDec8h_block (sched : List (BitVec 32)) (input : BitVec 512) (j : Nat) (hj : j < 8) :
    (vecDec8h sched input).extractLsb' (64 * j) 64 =
      sched.foldl (fun st sk => skinny64_ecb_decrypt_round_32le st sk) (input.extractLsb' (64 * j) 64) :=
  batchG_block (r := 16) (.of_transposition packTh_lanes (v64p_load_eq .dec) v64p_dec_round_scalar (v64p_store_eq .dec)) sched input j hj

def schedUp64 (ks : KeySched 32) : List (BitVec 32) := (List.range ks.rounds).map (fun i => ks.sched.getD i 0)
def schedDown64 (ks : KeySched 32) : List (BitVec 32) := (List.range ks.rounds).map (fun i => ks.sched.getD (ks.rounds - 1 - i) 0)

/-- **C07 for the Skinny-64 vector back end**: each of the eight blocks of a group is encrypted /
decrypted exactly as `skinny64_ecb_encrypt` / `_decrypt` of the 32-bit configuration does -/
theorem C07_vec64_block (ks : KeySched 32) (input : BitVec 512) (j : Nat) (hj : j < 8) (blk : Bytes)
    (hblk : image 64 blk = input.extractLsb' (64 * j) 64) :
    bytesOf 8 ((vecEnc8h (schedUp64 ks) input).extractLsb' (64 * j) 64) = ecbEncrypt (ops64 .c32le) p64 ks blk ∧
    bytesOf 8 ((vecDec8h (schedDown64 ks) input).extractLsb' (64 * j) 64) = ecbDecrypt (ops64 .c32le) p64 ks blk := by
  rw [vecEnc8h_block _ _ j hj, vecDec8h_block _ _ j hj, ← hblk]
  exact ⟨ecbEncrypt_fold (opsG64 .c32le) p64 ks blk, ecbDecrypt_fold (opsG64 .c32le) p64 ks blk⟩

theorem C07_vec64_spec (ks0 : KeySched 32) (hlen : 40 ≤ ks0.sched.length) (key : Bytes)
    (hk : key.length = 8 ∨ key.length = 16 ∨ key.length = 24) (j2 j3 : BitVec 64)
    (input : BitVec 512) (j : Nat) (hj : j < 8) (blk : Bytes) (hblk : image 64 blk = input.extractLsb' (64 * j) 64) :
    let ks := (setKey (ops64 .c32le) guards64 p64 ks0 (some key) key.length j2 j3).2
    bytesOf 8 ((vecEnc8h (schedUp64 ks) input).extractLsb' (64 * j) 64) = encrypt64 key blk ∧
    bytesOf 8 ((vecDec8h (schedDown64 ks) input).extractLsb' (64 * j) 64) = decrypt64 key blk := by
  intro ks
  have h := C07_vec64_block ks input j hj blk hblk
  have c := C01_skinny64 .c32le ks0 hlen key blk hk j2 j3
  exact ⟨h.1.trans c.2.1, h.2.trans c.2.2⟩

/-! ## the byte-wise load / store paths (`SKINNY_UNALIGNED = 0`) of the three vector files

The round bodies do not depend on the switch; the load and store segments do.  Assembled from the
pieces translated under that configuration, the batch functions are *equal* to the ones of the default
configuration (C12 for the vector files), hence every theorem above holds for them too. -/

def vecEnc4u (sched : List (BitVec 64)) (input : BitVec 512) : BitVec 512 :=
  let rows := sched.foldl (fun rws sk => mapRows (fun t => v128p_enc_round t.1 t.2.1 t.2.2.1 t.2.2.2 sk) rws) (v128p_enc_load_u0 input)
  v128p_enc_store_u0 rows.1 rows.2.1 rows.2.2.1 rows.2.2.2
def vecDec4u (sched : List (BitVec 64)) (input : BitVec 512) : BitVec 512 :=
  let rows := sched.foldl (fun rws sk => mapRows (fun t => v128p_dec_round t.1 t.2.1 t.2.2.1 t.2.2.2 sk) rws) (v128p_dec_load_u0 input)
  v128p_dec_store_u0 rows.1 rows.2.1 rows.2.2.1 rows.2.2.2
def vecEnc8u (sched : List (BitVec 64)) (input : BitVec 1024) : BitVec 1024 :=
  let rows := sched.foldl (fun rws sk => mapRows8 (fun t => v256p_enc_round t.1 t.2.1 t.2.2.1 t.2.2.2 sk) rws) (v256p_enc_load_u0 input)
  v256p_enc_store_u0 rows.1 rows.2.1 rows.2.2.1 rows.2.2.2
def vecDec8u (sched : List (BitVec 64)) (input : BitVec 1024) : BitVec 1024 :=
  let rows := sched.foldl (fun rws sk => mapRows8 (fun t => v256p_dec_round t.1 t.2.1 t.2.2.1 t.2.2.2 sk) rws) (v256p_dec_load_u0 input)
  v256p_dec_store_u0 rows.1 rows.2.1 rows.2.2.1 rows.2.2.2
def vecEnc8hu (sched : List (BitVec 32)) (input : BitVec 512) : BitVec 512 :=
  let rows := sched.foldl (fun rws sk => mapRowsH (fun t => v64p_enc_round t.1 t.2.1 t.2.2.1 t.2.2.2 sk) rws) (v64p_enc_load_u0 input)
  v64p_enc_store_u0 rows.1 rows.2.1 rows.2.2.1 rows.2.2.2
def vecDec8hu (sched : List (BitVec 32)) (input : BitVec 512) : BitVec 512 :=
  let rows := sched.foldl (fun rws sk => mapRowsH (fun t => v64p_dec_round t.1 t.2.1 t.2.2.1 t.2.2.2 sk) rws) (v64p_dec_load_u0 input)
  v64p_dec_store_u0 rows.1 rows.2.1 rows.2.2.1 rows.2.2.2

/-- **C12 for the vector files**: the byte-wise load / store configuration computes the same batch function
(block by block: both are the scalar rounds on the blocks of the input) -/
theorem C12_vec_unaligned_paths :
    (∀ sched input, vecEnc4u sched input = vecEnc4 sched input) ∧ (∀ sched input, vecDec4u sched input = vecDec4 sched input) ∧
    (∀ sched input, vecEnc8u sched input = vecEnc8 sched input) ∧ (∀ sched input, vecDec8u sched input = vecDec8 sched input) ∧
    (∀ sched input, vecEnc8hu sched input = vecEnc8h sched input) ∧ (∀ sched input, vecDec8hu sched input = vecDec8h sched input) :=
  ⟨batchG_eq (r := 32) (.of_transposition packT_lanes (v128p_load_u0_eq .enc) (vEnc128_scalar .p128) (v128p_store_u0_eq .enc))
     (.of_transposition packT_lanes (v128p_load_eq .enc) (vEnc128_scalar .p128) (v128p_store_eq .enc)),
   batchG_eq (r := 32) (.of_transposition packT_lanes (v128p_load_u0_eq .dec) (vDec128_scalar .p128) (v128p_store_u0_eq .dec))
     (.of_transposition packT_lanes (v128p_load_eq .dec) (vDec128_scalar .p128) (v128p_store_eq .dec)),
   batchG_eq (r := 32) (.of_transposition packT_lanes (v256p_load_u0_eq .enc) (vEnc128_scalar .p256) (v256p_store_u0_eq .enc))
     (.of_transposition packT_lanes (v256p_load_eq .enc) (vEnc128_scalar .p256) (v256p_store_eq .enc)),
   batchG_eq (r := 32) (.of_transposition packT_lanes (v256p_load_u0_eq .dec) (vDec128_scalar .p256) (v256p_store_u0_eq .dec))
     (.of_transposition packT_lanes (v256p_load_eq .dec) (vDec128_scalar .p256) (v256p_store_eq .dec)),
   batchG_eq (r := 16) (.of_transposition packTh_lanes (v64p_load_u0_eq .enc) (vEnc64_scalar .p) (v64p_store_u0_eq .enc))
     (.of_transposition packTh_lanes (v64p_load_eq .enc) (vEnc64_scalar .p) (v64p_store_eq .enc)),
   batchG_eq (r := 16) (.of_transposition packTh_lanes (v64p_load_u0_eq .dec) v64p_dec_round_scalar (v64p_store_u0_eq .dec))
     (.of_transposition packTh_lanes (v64p_load_eq .dec) v64p_dec_round_scalar (v64p_store_eq .dec))⟩

end SkinnyVerif.Properties
