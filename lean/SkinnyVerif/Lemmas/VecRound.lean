/-
The vector back ends of SKINNY: one lane of a vector round body is the scalar round of the 32-bit little-endian
configuration of the C library - for every translation of the round (`VEnc128`, `VDec128`: the two Skinny-128
parallel-ECB files and the two CTR files in their two word-size builds; `VEnc64`: the Skinny-64 files).
-/
import SkinnyVerif.Lemmas.VecBatch
import SkinnyVerif.Lemmas.VecBase
import SkinnyVerif.Gen.Vec256LeafLanes
import SkinnyVerif.Gen.Vec256Pieces
import SkinnyVerif.Gen.VecCtr128LeafLanes
import SkinnyVerif.Gen.VecCtr128Pieces
import SkinnyVerif.Gen.VecCtr256LeafLanes
import SkinnyVerif.Gen.VecCtr256Pieces
import SkinnyVerif.Gen.VecCtr64LeafLanes
import SkinnyVerif.Gen.VecCtr64Pieces

namespace SkinnyVerif.Lemmas
open SkinnyVerif SkinnyVerif.Gen SkinnyVerif.Impl SkinnyVerif.Spec.Skinny

/-- the translations of the encryption round: parallel ECB and CTR, 128- and 256-bit vectors, 32-bit-word build -/
inductive VEnc128 | p128 | p256 | c128 | c128w32 | c256 | c256w32

def vEnc128 : VEnc128 → BitVec 32 → BitVec 32 → BitVec 32 → BitVec 32 → BitVec 64 → Rows 32
  | .p128 => v128p_enc_round
  | .p256 => v256p_enc_round
  | .c128 => v128c_enc_round
  | .c128w32 => v128c_enc_round_w32
  | .c256 => v256c_enc_round
  | .c256w32 => v256c_enc_round_w32

/-- the translations of the decryption round -/
inductive VDec128 | p128 | p256

def vDec128 : VDec128 → BitVec 32 → BitVec 32 → BitVec 32 → BitVec 32 → BitVec 64 → Rows 32
  | .p128 => v128p_dec_round
  | .p256 => v256p_dec_round

/-- **one lane of the vector encryption round = the scalar 32-bit round of the C library** -/
theorem vEnc128_scalar (T : VEnc128) (t : Rows 32) (sk : BitVec 64) :
    packT (vEnc128 T t.1 t.2.1 t.2.2.1 t.2.2.2 sk) = skinny128_ecb_encrypt_round_32le (packT t) sk := by
  -- the leaves unfolded: `_` is the circuit
  have f1 : ∀ u, v128p_sbox u = _ := fun u => by simp only [v128p_sbox, gen_unfold]; rfl
  have f2 : ∀ u, v256p_sbox u = _ := fun u => by simp only [v256p_sbox, gen_unfold]; rfl
  have f3 : ∀ u, v128c_sbox u = _ := fun u => by simp only [v128c_sbox, gen_unfold]; rfl
  have f4 : ∀ u, v256c_sbox u = _ := fun u => by simp only [v256c_sbox, gen_unfold]; rfl
  cases T <;> lanewise 8 16 [vEnc128, packT, pack4, ← f1, ← f2, ← f3, ← f4]

theorem vDec128_scalar (T : VDec128) (t : Rows 32) (sk : BitVec 64) :
    packT (vDec128 T t.1 t.2.1 t.2.2.1 t.2.2.2 sk) = skinny128_ecb_decrypt_round_32le (packT t) sk := by
  have f1 : ∀ u, v128p_inv_sbox u = _ := fun u => by simp only [v128p_inv_sbox, gen_unfold]; rfl
  have f2 : ∀ u, v256p_inv_sbox u = _ := fun u => by simp only [v256p_inv_sbox, gen_unfold]; rfl
  cases T <;> lanewise 8 16 [vDec128, packT, pack4, ← f1, ← f2]


/-- the translations of the encryption round: the parallel-ECB and the CTR file -/
inductive VEnc64 | p | c

def vEnc64 : VEnc64 → BitVec 16 → BitVec 16 → BitVec 16 → BitVec 16 → BitVec 32 → Rows 16
  | .p => v64p_enc_round
  | .c => v64c_enc_round

/-- **one lane of the vector encryption round = the scalar round of the C library (32-bit words)** -/
theorem vEnc64_scalar (T : VEnc64) (t : Rows 16) (sk : BitVec 32) :
    packTh (vEnc64 T t.1 t.2.1 t.2.2.1 t.2.2.2 sk) = skinny64_ecb_encrypt_round_32le (packTh t) sk := by
  cases T <;> lanewise 4 16 [vEnc64, packTh, pack4h]

theorem v64p_dec_round_scalar (t : Rows 16) (sk : BitVec 32) :
    packTh (v64p_dec_round t.1 t.2.1 t.2.2.1 t.2.2.2 sk) = skinny64_ecb_decrypt_round_32le (packTh t) sk := by
  lanewise 4 16 [packTh, pack4h]

end SkinnyVerif.Lemmas
