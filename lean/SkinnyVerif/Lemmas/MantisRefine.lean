/-
MANTIS refinement.  `refCrypt` is the block function assembled from the reference forms: it is what
`mantisCrypt` / `mantisCryptTweaked` compute over a table whose pieces equal the reference forms, what one
lane of the vector code computes, and it computes the specification's `crypt` on the cells of the key
schedule's fields.
-/
import SkinnyVerif.Lemmas.MantisKeys
import SkinnyVerif.Basic.Loops

namespace SkinnyVerif.Lemmas
open SkinnyVerif SkinnyVerif.Gen SkinnyVerif.Impl SkinnyVerif.Spec.Skinny SkinnyVerif.Spec.Mantis

/-- `mantis_ecb_crypt` on images with the reference forms for pieces: `rc` is the round-constant table,
`ks` the image of the schedule, `rounds` its round count, `tw` the tweak in use -/
def refCrypt (rc : List (BitVec 64)) (ks : BitVec 288) (rounds : Nat) (tw inp : BitVec 64) : BitVec 64 :=
  let p := refPre inp ks tw
  let a := (List.range rounds).foldl (fun (acc : BitVec 64 × BitVec 64) i => refFwd acc.1 acc.2 p.2.2 (rc.getD i 0)) (p.1, p.2.1)
  let m := refMid a.1 p.2.2
  let b := (List.range rounds).foldl (fun (acc : BitVec 64 × BitVec 64) i => refBwd acc.1 acc.2 m.2 (rc.getD (rounds - 1 - i) 0)) (m.1, a.2)
  refPost b.1 b.2 m.2 ks

/-! ## fields of the schedule image -/

theorem image_k0 (k : MantisKey) : k.image.extractLsb' 0 64 = k.k0 := by windows [MantisKey.image]
theorem image_k0prime (k : MantisKey) : k.image.extractLsb' 64 64 = k.k0prime := by windows [MantisKey.image]
theorem image_k1 (k : MantisKey) : k.image.extractLsb' 128 64 = k.k1 := by windows [MantisKey.image]
theorem image_tweak (k : MantisKey) : k.image.extractLsb' 192 64 = k.tweak := by windows [MantisKey.image]

/-! ## a table whose pieces are the reference forms computes `refCrypt` -/

theorem mantisCrypt_ref (o : MantisOps) (hp : MantisPiecesOK o) (ks : MantisKey) (input : Bytes) :
    mantisCrypt o ks input = bytesOf 8 (refCrypt o.rc ks.image ks.rounds ks.tweak (image 64 input)) := by
  simp only [mantisCrypt, refCrypt, hp.pre, hp.fwd, hp.mid, hp.bwd, hp.post, refPre, image_tweak]

theorem mantisCryptTweaked_ref (o : MantisOps) (hp : MantisPiecesOK o) (ks : MantisKey) (tweak input : Bytes) :
    mantisCryptTweaked o ks tweak input = bytesOf 8 (refCrypt o.rc ks.image ks.rounds (image 64 tweak) (image 64 input)) := by
  simp only [mantisCryptTweaked, refCrypt, hp.preT, hp.fwdT, hp.midT, hp.bwdT, hp.postT, refPre]

/-! ## the references on cells -/

/-- the abstraction of a loop state -/
def absPair (a : BitVec 64 × BitVec 64) : Cells 4 × Cells 4 := (cells4 a.1, cells4 a.2)

theorem refFwd_cells (st tw k1 r : BitVec 64) (i : Nat) (hr : cells4 r = rcCells i) :
    absPair (refFwd st tw k1 r) = fwdRound (cells4 k1) i (cells4 st) (cells4 tw) := by
  simp only [absPair, refFwd, fwdRound, mix_columns_cells, shift_rows_cells, cells4_xor, sbox_64_cells, update_tweak_cells, hr]

theorem refBwd_cells (st tw k1 r : BitVec 64) (i : Nat) (hr : cells4 r = rcCells i) :
    absPair (refBwd st tw k1 r) = bwdRound (cells4 k1) i (cells4 st) (cells4 tw) := by
  simp only [absPair, refBwd, bwdRound, mix_columns_cells, shift_rows_inverse_cells, cells4_xor, sbox_64_cells, update_tweak_inverse_cells, hr]

theorem refMid_cells (st k1 : BitVec 64) :
    absPair (refMid st k1) = (subCells Sb0 (mulColumns MM (subCells Sb0 (cells4 st))), xorCells (cells4 k1) (cellsOfWord alpha)) := by
  simp only [absPair, refMid, mix_columns_cells, cells4_xor, sbox_64_cells, alphaImg_cells]

/-! ## the whole cipher -/

/-- the specification with the loop states named -/
theorem crypt_stages (r : Nat) (k : Keys) (tweak m : Cells 4) :
    crypt r k tweak m =
      (let a := (List.range r).foldl (fun (a : Cells 4 × Cells 4) i => fwdRound k.k1 i a.1 a.2)
          (xorCells m (xorCells k.k0 (xorCells k.k1 tweak)), tweak)
       let k1a := xorCells k.k1 (cellsOfWord alpha)
       let b := (List.range r).reverse.foldl (fun (a : Cells 4 × Cells 4) i => bwdRound k1a i a.1 a.2)
          (subCells Sb0 (mulColumns MM (subCells Sb0 a.1)), a.2)
       xorCells b.1 (xorCells k.k0' (xorCells k1a b.2))) := rfl

/-- `refCrypt` computes the specification's `crypt`, given that the table holds the round constants -/
theorem refCrypt_cells (rc : List (BitVec 64)) (hrc : ∀ i, i < 8 → cells4 (rc.getD i 0) = rcCells i) (ks : MantisKey)
    (hr : ks.rounds ≤ 8) (tw inp : BitVec 64) :
    cells4 (refCrypt rc ks.image ks.rounds tw inp) = crypt ks.rounds (keysOf ks) (cells4 tw) (cells4 inp) := by
  have hl : ∀ i ∈ List.range ks.rounds, i < 8 := fun i hi => by have := List.mem_range.mp hi; omega
  have hF := fun k1 => foldl_abs absPair (fun (a : BitVec 64 × BitVec 64) i => refFwd a.1 a.2 k1 (rc.getD i 0))
    (fun c i => fwdRound (cells4 k1) i c.1 c.2) (List.range ks.rounds) (fun a i hi => refFwd_cells a.1 a.2 k1 _ i (hrc i (hl i hi)))
  have hB := fun k1 => foldl_abs absPair (fun (a : BitVec 64 × BitVec 64) i => refBwd a.1 a.2 k1 (rc.getD i 0))
    (fun c i => bwdRound (cells4 k1) i c.1 c.2) (List.range ks.rounds).reverse
    (fun a i hi => refBwd_cells a.1 a.2 k1 _ i (hrc i (hl i (List.mem_reverse.mp hi))))
  simp only [refCrypt, refPre, refPost, image_k0, image_k0prime, image_k1, crypt_stages, keysOf]
  rw [foldl_countdown (fun (a : BitVec 64 × BitVec 64) i => refBwd a.1 a.2 _ (rc.getD i 0))]
  -- forward half, middle, backward half: name the implementation's states and rewrite the specification's into their cells
  generalize hA : List.foldl (fun (a : BitVec 64 × BitVec 64) i => refFwd a.1 a.2 ks.k1 (rc.getD i 0)) _ _ = a
  have hA' := hF ks.k1 (inp ^^^ (ks.k0 ^^^ ks.k1 ^^^ tw), tw)
  simp only [hA, absPair, cells4_xor, xorCells_assoc] at hA'
  generalize hM : refMid a.1 ks.k1 = m
  have hM' := refMid_cells a.1 ks.k1
  simp only [hM, absPair, Prod.mk.injEq] at hM'
  generalize hB0 : List.foldl (fun (a : BitVec 64 × BitVec 64) i => refBwd a.1 a.2 m.2 (rc.getD i 0)) _ _ = b
  have hB' := hB m.2 (m.1, a.2)
  simp only [hB0, absPair, hM'.1, hM'.2] at hB'
  rw [← hA', ← hB']
  simp only [cells4_xor, hM'.2, xorCells_assoc]

/-- `mantis_ecb_crypt`: the specification's `crypt` under the schedule's key material and stored tweak -/
theorem mantisCrypt_spec (o : MantisOps) (hp : MantisPiecesOK o) (hrc : ∀ i, i < 8 → cells4 (o.rc.getD i 0) = rcCells i)
    (ks : MantisKey) (hr : ks.rounds ≤ 8) (input : Bytes) :
    mantisCrypt o ks input = bytesOfCells4 (crypt ks.rounds (keysOf ks) (cells4 ks.tweak) (cells4 (image 64 input))) := by
  rw [mantisCrypt_ref o hp, ← refCrypt_cells o.rc hrc ks hr, bytesOfCells4_cells4]

/-- `mantis_ecb_crypt_tweaked`: the same with the caller's tweak -/
theorem mantisCryptTweaked_spec (o : MantisOps) (hp : MantisPiecesOK o) (hrc : ∀ i, i < 8 → cells4 (o.rc.getD i 0) = rcCells i)
    (ks : MantisKey) (hr : ks.rounds ≤ 8) (tweak input : Bytes) :
    mantisCryptTweaked o ks tweak input =
      bytesOfCells4 (crypt ks.rounds (keysOf ks) (cells4 (image 64 tweak)) (cells4 (image 64 input))) := by
  rw [mantisCryptTweaked_ref o hp, ← refCrypt_cells o.rc hrc ks hr, bytesOfCells4_cells4]

end SkinnyVerif.Lemmas
