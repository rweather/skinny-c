/-
One block size of the family as the C library sees it -- abstraction of memory images,
parameters, argument guards -- next to the specification's byte interface for that size, so that
every property of `set_key`, `set_tweaked_key`, `set_tweak`, `ecb_encrypt`, `ecb_decrypt` is one
theorem over a `Variant` (and over any table of generated pieces that is correct for it).
-/
import SkinnyVerif.Lemmas.Refine
import SkinnyVerif.Lemmas.ByteCells
import SkinnyVerif.Lemmas.GuardLemmas
import SkinnyVerif.Lemmas.SpecInverse

namespace SkinnyVerif.Lemmas
open SkinnyVerif SkinnyVerif.Gen SkinnyVerif.Spec.Skinny SkinnyVerif.Impl

structure Variant (b h s : Nat) where
  A : Abs b h s
  p : SkinnyParams
  g : SkinnyGuards
  ofBytes : Bytes → Cells s
  toBytes : Cells s → Bytes
  rounds : Nat → Nat

def skinny128 : Variant 128 64 8 := ⟨abs128, p128, guards128, cellsOfBytes8, bytesOfCells8, rounds128⟩
def skinny64 : Variant 64 32 4 := ⟨abs64, p64, guards64, cellsOfBytes4, bytesOfCells4, rounds64⟩

namespace Variant
variable {b h s : Nat} (V : Variant b h s)

/-- `tweakey128` / `tweakey64` -/
def tweakey (K : Bytes) : Tweakey s :=
  ⟨V.ofBytes (K.take V.p.bs), V.ofBytes ((K.drop V.p.bs).take V.p.bs), V.ofBytes ((K.drop (2 * V.p.bs)).take V.p.bs)⟩

/-- the specification on byte strings, `z` tweakey words counting for the number of rounds:
`encrypt128 key = skinny128.enc (key.length / 16) 0 key`,
`encryptTweaked128 key tw = skinny128.enc (key.length / 16 + 1) 2 (tw ++ key)` -/
def enc (z : Nat) (dom : BitVec s) (K blk : Bytes) : Bytes :=
  V.toBytes (encrypt V.A.co (V.rounds z) (V.tweakey K) dom (V.ofBytes blk))
def dec (z : Nat) (dom : BitVec s) (K blk : Bytes) : Bytes :=
  V.toBytes (decrypt V.A.co (V.rounds z) (V.tweakey K) dom (V.ofBytes blk))

/-- what the generic proofs use of a block size -/
structure OK : Prop where
  bits : b = 8 * V.p.bs
  bs_pos : 0 < V.p.bs
  small : 3 * V.p.bs < 2 ^ 32
  r12 : V.p.r1 ≤ V.p.r2
  r23 : V.p.r2 ≤ V.p.r3
  rounds : ∀ z, V.rounds z = if z ≤ 1 then V.p.r1 else if z = 2 then V.p.r2 else V.p.r3
  abs : AbsOK V.A
  sbox : CellOpsOK V.A.co
  ofBytes : ∀ l, V.ofBytes l = V.A.cells (image b l)
  toBytes : ∀ x, V.toBytes (V.A.cells x) = bytesOf V.p.bs x
  ofBytes_toBytes : ∀ c, V.ofBytes (V.toBytes c) = c
  guardKey : ∀ kn n, n < 2 ^ 32 →
    V.g.setKey false kn (BitVec.ofNat 32 n) = (kn || decide (n < V.p.bs) || decide (3 * V.p.bs < n))
  guardTweakedKey : ∀ kn n, n < 2 ^ 32 →
    V.g.setTweakedKey false kn (BitVec.ofNat 32 n) = (kn || decide (n < V.p.bs) || decide (2 * V.p.bs < n))
  guardTweak : ∀ tn n, n < 2 ^ 32 →
    V.g.setTweak false tn (BitVec.ofNat 32 n) = (decide (n < 1) || decide (V.p.bs < n))

end Variant

theorem ops4OK : CellOpsOK ops4 := ⟨S4inv_S4, S4_S4inv⟩
theorem ops8OK : CellOpsOK ops8 := ⟨S8inv_S8, S8_S8inv⟩

/- `toBytes` is given on the unfolded bundle: asked whether `skinny128.toBytes (cells8 x)` is
`bytesOfCells8 (cells8 x)`, the unifier unfolds the right side first and evaluates `Vector.ofFn`. -/
theorem skinny128_ok : skinny128.OK :=
  { bits := rfl, bs_pos := by decide, small := by decide, r12 := by decide, r23 := by decide, rounds := fun _ => rfl,
    abs := absOK128, sbox := ops8OK, ofBytes := cellsOfBytes8_eq, toBytes := by dsimp only [skinny128]; exact bytesOfCells8_cells8,
    ofBytes_toBytes := cellsOfBytes8_bytesOfCells8,
    guardKey := guard128_setKey, guardTweakedKey := guard128_setTweakedKey, guardTweak := guard128_setTweak }

theorem skinny64_ok : skinny64.OK :=
  { bits := rfl, bs_pos := by decide, small := by decide, r12 := by decide, r23 := by decide, rounds := fun _ => rfl,
    abs := absOK64, sbox := ops4OK, ofBytes := cellsOfBytes4_eq, toBytes := by dsimp only [skinny64]; exact bytesOfCells4_cells4,
    ofBytes_toBytes := cellsOfBytes4_bytesOfCells4,
    guardKey := guard64_setKey, guardTweakedKey := guard64_setTweakedKey, guardTweak := guard64_setTweak }

namespace Variant.OK
variable {b h s : Nat} {V : Variant b h s} (ok : V.OK) {o : SkinnyOps b h}
include ok

theorem toBytes_ofBytes (l : Bytes) (hl : l.length = V.p.bs) : V.toBytes (V.ofBytes l) = l := by
  rw [ok.ofBytes, ok.toBytes, bytesOf_image b _ l hl (Nat.le_of_eq ok.bits.symm)]

/-- `ecb_encrypt` / `ecb_decrypt` on a keyed schedule are the specification -/
theorem ecb_spec (hc : OpsCorrectG V.A o) {ks : KeySched h} {z : Nat} {K : Bytes} {dom : BitVec s}
    (hk : Keyed V.A ks (V.rounds z) (V.tweakey K) dom) (blk : Bytes) :
    ecbEncrypt o V.p ks blk = V.enc z dom K blk ∧ ecbDecrypt o V.p ks blk = V.dec z dom K blk := by
  rw [ecbEncrypt_eq, ecbDecrypt_eq, ← ok.toBytes, ← ok.toBytes, encrypt_refines hc hk, decrypt_refines hc hk, ← ok.ofBytes]
  exact ⟨rfl, rfl⟩

/-- the specification's decryption inverts its encryption on byte strings, and conversely -/
theorem dec_enc (z : Nat) (dom : BitVec s) (K blk : Bytes) (hb : blk.length = V.p.bs) :
    V.dec z dom K (V.enc z dom K blk) = blk := by
  rw [dec, enc, ok.ofBytes_toBytes, decrypt_encrypt _ ok.sbox, ok.toBytes_ofBytes blk hb]
theorem enc_dec (z : Nat) (dom : BitVec s) (K blk : Bytes) (hb : blk.length = V.p.bs) :
    V.enc z dom K (V.dec z dom K blk) = blk := by
  rw [dec, enc, ok.ofBytes_toBytes, encrypt_decrypt _ ok.sbox, ok.toBytes_ofBytes blk hb]

/-! the public setters with their argument guards resolved -/

theorem setKey_eq (o : SkinnyOps b h) (ks0 : KeySched h) (key : Bytes) (size : Nat) (hsz : size < 2 ^ 32) (j2 j3 : BitVec b) :
    setKey o V.g V.p ks0 (some key) size j2 j3 =
      if V.p.bs ≤ size ∧ size ≤ 3 * V.p.bs then (1, setKeyInner o V.p ks0 key size none j2 j3) else (0, ks0) := by
  simp only [setKey, ok.guardKey _ _ hsz, Option.isNone_some, Bool.false_or, Bool.or_eq_true, decide_eq_true_eq]
  by_cases h : V.p.bs ≤ size ∧ size ≤ 3 * V.p.bs
  · rw [if_neg (by omega), if_pos h]
  · rw [if_pos (by omega), if_neg h]

theorem setTweakedKey_eq (o : SkinnyOps b h) (tk0 : TweakedKey h) (key : Bytes) (size : Nat) (j2 j3 : BitVec b)
    (h1 : V.p.bs ≤ size) (h2 : size ≤ 2 * V.p.bs) :
    setTweakedKey o V.g V.p tk0 (some key) size j2 j3 =
      (1, { ks := setKeyInner o V.p tk0.ks key size (some (zeros V.p.bs)) j2 j3, tweak := zeros V.p.bs }) := by
  have := ok.small
  simp only [setTweakedKey, ok.guardTweakedKey _ _ (by omega : size < 2 ^ 32), Option.isNone_some, Bool.false_or, Bool.or_eq_true,
    decide_eq_true_eq]
  rw [if_neg (by omega)]

theorem setTweak_eq (o : SkinnyOps b h) (tk : TweakedKey h) (tweak : Option Bytes) (size : Nat) (h1 : 1 ≤ size) (h2 : size ≤ V.p.bs) :
    setTweak o V.g V.p tk tweak size =
      (1, { ks := xorTk1 o (xorTk1 o tk.ks tk.tweak) (tweakBytes V.p.bs tweak size), tweak := tweakBytes V.p.bs tweak size }) := by
  have := ok.small
  simp only [setTweak, ok.guardTweak _ _ (by omega : size < 2 ^ 32), Bool.or_eq_true, decide_eq_true_eq]
  rw [if_neg (by omega)]

end Variant.OK

end SkinnyVerif.Lemmas
