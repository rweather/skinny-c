/-
Block-by-block ECB of the specification (`Spec.Modes.ecb`).  It cuts the data with `chunks`, whose
fuel only has to exceed the length; the facts about `ecb` below are free of it.  The model's loop over
single blocks (`Impl.parallelBlocks`) cuts in the same way.
-/
import SkinnyVerif.Spec.Modes
import SkinnyVerif.Impl.Modes

namespace SkinnyVerif.Lemmas
open SkinnyVerif SkinnyVerif.Spec.Modes SkinnyVerif.Impl

theorem chunks_fuel (bs : Nat) (hbs : 0 < bs) (f1 f2 : Nat) (data : Bytes) (h1 : data.length < f1) (h2 : data.length < f2) :
    chunks bs f1 data = chunks bs f2 data := by
  fun_induction chunks bs f1 data generalizing f2 with
  | case1 => omega
  | case2 f1 data h =>
    cases f2 with
    | zero => rfl
    | succ f2 => rw [chunks, if_pos h]
  | case3 f1 data h ih =>
    cases f2 with
    | zero => omega
    | succ f2 => rw [chunks, if_neg h, ih f2 (by rw [List.length_drop]; omega) (by rw [List.length_drop]; omega)]

theorem ecb_fuel (F : Bytes → Bytes) (bs : Nat) (hbs : 0 < bs) (fuel : Nat) (data : Bytes) (hf : data.length < fuel) :
    (chunks bs fuel data).flatMap F = ecb F bs data := by
  rw [ecb, chunks_fuel bs hbs fuel (data.length + 1) data hf (by omega)]

theorem ecb_short (F : Bytes → Bytes) (bs : Nat) (r : Bytes) (hr : r.length < bs) : ecb F bs r = [] := by
  simp [ecb, chunks, hr]

theorem ecb_step (F : Bytes → Bytes) (bs : Nat) (hbs : 0 < bs) (data : Bytes) (h : bs ≤ data.length) :
    ecb F bs data = F (data.take bs) ++ ecb F bs (data.drop bs) := by
  rw [ecb, chunks, if_neg (by omega), List.flatMap_cons, ecb_fuel F bs hbs _ _ (by rw [List.length_drop]; omega)]

/-- whole blocks in front are encrypted on their own -/
theorem ecb_append (F : Bytes → Bytes) (bs : Nat) (hbs : 0 < bs) (q : Nat) (a b : Bytes) (ha : a.length = q * bs) :
    ecb F bs (a ++ b) = ecb F bs a ++ ecb F bs b := by
  induction q generalizing a with
  | zero =>
    obtain rfl : a = [] := List.eq_nil_of_length_eq_zero (by simpa using ha)
    rw [ecb_short F bs [] hbs]
    rfl
  | succ q ih =>
    rw [Nat.succ_mul] at ha
    have hle : bs ≤ a.length := by omega
    rw [ecb_step F bs hbs (a ++ b) (by rw [List.length_append]; omega), ecb_step F bs hbs a hle, List.take_append_of_le_length hle,
      List.drop_append_of_le_length hle, ih (a.drop bs) (by rw [List.length_drop]; omega), List.append_assoc]

/-- dropping the trailing partial block does not change the blocks -/
theorem ecb_take_whole (F : Bytes → Bytes) (bs : Nat) (hbs : 0 < bs) (c : Bytes) :
    ecb F bs (c.take (c.length - c.length % bs)) = ecb F bs c := by
  have hdm := Nat.div_add_mod c.length bs
  have hmod := Nat.mod_lt c.length hbs
  conv => rhs; rw [← List.take_append_drop (c.length - c.length % bs) c]
  rw [ecb_append F bs hbs (c.length / bs) _ _ (by rw [List.length_take, Nat.mul_comm]; omega),
    ecb_short F bs (c.drop _) (by rw [List.length_drop]; omega), List.append_nil]

/-- the remainder loop of parallel ECB cuts the data as `chunks` does -/
theorem parallelBlocks_eq (F : Bytes → Bytes) (bs : Nat) (hbs : bs ≠ 0) (fuel : Nat) (input : Bytes) :
    parallelBlocks F bs fuel input = (chunks bs fuel input).flatMap F := by
  induction fuel generalizing input with
  | zero => rfl
  | succ n ih =>
    simp only [parallelBlocks, chunks, hbs, or_false]
    by_cases h : input.length < bs
    · simp [h]
    · simp [h, ih]

end SkinnyVerif.Lemmas
