/-
Counter arithmetic: the generated `skinny128_inc_counter` / `skinny64_inc_counter` (a byte-wise
carry chain over a `uint16_t` accumulator, unrolled by the translator) add a small number to a
big-endian counter block modulo 2^(8·bs) -- carries through every byte, wrap-around included.
The chain is `addChain` on numbers and `beAdd` on byte strings; both generated functions are one
recursion over the bytes, `incBlock`, at 16 and at 8 bytes.
-/
import SkinnyVerif.Basic.BytesLemmas
import SkinnyVerif.Gen.CounterLeafOuts
import SkinnyVerif.Impl.Modes

namespace SkinnyVerif.Lemmas
open SkinnyVerif SkinnyVerif.Gen SkinnyVerif.Impl

/-- carry chain over bytes listed from the least significant one -/
def addChain : List Nat → Nat → List Nat
  | [], _ => []
  | b :: bs, c => (b + c) % 256 :: addChain bs ((b + c) / 256)

def valLE : List Nat → Nat
  | [] => 0
  | b :: bs => b + 256 * valLE bs

theorem addChain_length (l : List Nat) (c : Nat) : (addChain l c).length = l.length := by
  induction l generalizing c with
  | nil => rfl
  | cons b bs ih => simp [addChain, ih]

theorem addChain_val (l : List Nat) (c : Nat) : valLE (addChain l c) = (valLE l + c) % 256 ^ l.length := by
  induction l generalizing c with
  | nil => simp [addChain, valLE, Nat.mod_one]
  | cons b bs ih =>
    -- (b + 256 v + c) mod 256·M splits into its residue mod 256 and its quotient mod M
    simp only [addChain, valLE, ih, List.length_cons]
    rw [Nat.pow_succ, Nat.mul_comm _ 256, Nat.mod_mul]
    congr 1
    · omega
    · congr 2; omega

theorem addChain_lt (l : List Nat) (c : Nat) : ∀ b ∈ addChain l c, b < 256 := by
  induction l generalizing c with
  | nil => simp [addChain]
  | cons x xs ih =>
    intro b hb
    simp only [addChain, List.mem_cons] at hb
    rcases hb with h | h
    · rw [h]; exact Nat.mod_lt _ (by decide)
    · exact ih _ b h

theorem valLE_eq_leNat (l : Bytes) : valLE (l.map (·.toNat)) = leNat l := by
  induction l with
  | nil => rfl
  | cons x xs ih => simp [valLE, leNat, ih]

theorem map_ofNat_toNat (l : List Nat) (h : ∀ b ∈ l, b < 256) : (l.map UInt8.ofNat).map (·.toNat) = l := by
  induction l with
  | nil => rfl
  | cons x xs ih =>
    have hx : x < 256 := h x (by simp)
    simp only [List.map_cons, ih (fun b hb => h b (by simp [hb]))]
    congr 1
    simp [Nat.mod_eq_of_lt hx]

/-- add `k` to the big-endian number in a byte string: the carry chain from the last byte up, the last carry dropped -/
def beAdd (k : Nat) (t : Bytes) : Bytes := ((addChain (t.reverse.map (·.toNat)) k).reverse).map UInt8.ofNat

theorem beAdd_length (k : Nat) (t : Bytes) : (beAdd k t).length = t.length := by
  simp [beAdd, addChain_length]

theorem beNat_beAdd (k : Nat) (t : Bytes) : beNat (beAdd k t) = (beNat t + k) % 256 ^ t.length := by
  simp only [beNat, beAdd, ← List.map_reverse, List.reverse_reverse]
  rw [← valLE_eq_leNat, map_ofNat_toNat _ (addChain_lt _ _), addChain_val, valLE_eq_leNat]
  simp

/-- one unrolled step of the generated carry chain, on numbers, when the 16-bit accumulator does not overflow -/
theorem chain_step (acc : BitVec 16) (b : BitVec 8) (h : acc.toNat + b.toNat < 65536) :
    (BitVec.setWidth 8 (BitVec.setWidth 16 (BitVec.setWidth 32 acc + BitVec.setWidth 32 b))).toNat = (b.toNat + acc.toNat) % 256 ∧
    (BitVec.setWidth 16 (BitVec.setWidth 32 (BitVec.setWidth 16 (BitVec.setWidth 32 acc + BitVec.setWidth 32 b)) >>> 8)).toNat = (b.toNat + acc.toNat) / 256 := by
  have hb := b.isLt
  simp only [BitVec.toNat_setWidth, BitVec.toNat_add, BitVec.toNat_ushiftRight, Nat.shiftRight_eq_div_pow]
  omega

/-! ## the generated functions as a recursion over the bytes -/

/-- the loop body of `skinnyN_inc_counter` with C's integer promotions (`inc += counter[i]; counter[i] = (uint8_t)inc;
inc >>= 8` on a `uint16_t`), over the bytes from the least significant one: the bytes stored -/
def chain16 : List (BitVec 8) → BitVec 16 → List (BitVec 8)
  | [], _ => []
  | b :: bs, acc =>
    BitVec.setWidth 8 (BitVec.setWidth 16 (BitVec.setWidth 32 acc + BitVec.setWidth 32 b)) ::
      chain16 bs (BitVec.setWidth 16 (BitVec.setWidth 32 (BitVec.setWidth 16 (BitVec.setWidth 32 acc + BitVec.setWidth 32 b)) >>> 8))

theorem chain16_length (bs : List (BitVec 8)) (acc : BitVec 16) : (chain16 bs acc).length = bs.length := by
  induction bs generalizing acc with
  | nil => rfl
  | cons b bs ih => simp [chain16, ih]

/-- the chain on bit vectors is the chain on numbers: started below 0xFF01 the accumulator never overflows -/
theorem chain16_toNat (bs : List (BitVec 8)) (acc : BitVec 16) (h : acc.toNat ≤ 0xFF00) :
    (chain16 bs acc).map (·.toNat) = addChain (bs.map (·.toNat)) acc.toNat := by
  induction bs generalizing acc with
  | nil => rfl
  | cons b bs ih =>
    have hb := b.isLt
    obtain ⟨h1, h2⟩ := chain_step acc b (by omega)
    simp only [chain16, List.map_cons, addChain]
    rw [h1, ih _ (by rw [h2]; omega), h2]

/-- `skinnyN_inc_counter` on the image of an `n`-byte block: the chain runs from byte `n-1` down to byte 0 -/
def incBlock (n : Nat) {w : Nat} (x : BitVec w) (k : BitVec 16) : BitVec w :=
  packLanes 8 w (fun i => ((chain16 ((List.range n).map fun i => lane 8 i x).reverse k).reverse).getD i 0) n

theorem inc128_eq (x : BitVec 128) (k : BitVec 16) : skinny128_inc_counter x k = incBlock 16 x k := by
  rw [skinny128_inc_counter_out0]
  simp only [gen_unfold, incBlock, packLanes, chain16, lane, List.range_succ, List.range_zero, List.nil_append, List.cons_append, List.map_cons,
    List.map_nil, List.reverse_cons, List.reverse_nil, List.getD_cons_succ, List.getD_cons_zero, Nat.reduceMul, BitVec.ofNat_eq_ofNat, BitVec.zero_or,
    BitVec.shiftLeft_zero]

theorem inc64_eq (x : BitVec 64) (k : BitVec 16) : skinny64_inc_counter x k = incBlock 8 x k := by
  rw [skinny64_inc_counter_out0]
  simp only [gen_unfold, incBlock, packLanes, chain16, lane, List.range_succ, List.range_zero, List.nil_append, List.cons_append, List.map_cons,
    List.map_nil, List.reverse_cons, List.reverse_nil, List.getD_cons_succ, List.getD_cons_zero, Nat.reduceMul, BitVec.ofNat_eq_ofNat, BitVec.zero_or,
    BitVec.shiftLeft_zero]

/-- on byte strings the unrolled chain is `beAdd` -/
theorem incBlock_bytes (n w : Nat) (hw : 8 * n ≤ w) (c : Bytes) (hc : c.length = n) (k : BitVec 16) (hk : k.toNat ≤ 0xFF00) :
    bytesOf n (incBlock n (image w c) k) = beAdd k.toNat c := by
  have hin : ((c.map fun u => BitVec.ofNat 8 u.toNat).reverse).map (·.toNat) = c.reverse.map (·.toNat) := by
    simp [Function.comp_def]
  rw [incBlock, lanes_image w n c hc hw, bytesOf_packLanes w n _ (by simp [chain16_length, hc]) hw, beAdd, ← hin, ← chain16_toNat _ _ hk]
  simp [Function.comp_def]

/-- the counter increment of the CTR code is `beAdd`, for both block sizes -/
theorem incCounter_eq (bs : Nat) (hbs : bs = 16 ∨ bs = 8) (k : Nat) (hk : k ≤ 0xFF00) (c : Bytes) (hc : c.length = bs) :
    incCounter bs k c = beAdd k c := by
  have hk16 : (BitVec.ofNat 16 k).toNat = k := by simp [BitVec.toNat_ofNat]; omega
  rcases hbs with rfl | rfl
  · rw [incCounter, if_pos rfl, inc128_eq, incBlock_bytes 16 128 (by decide) c hc _ (by omega), hk16]
  · rw [incCounter, if_neg (by decide), inc64_eq, incBlock_bytes 8 64 (by decide) c hc _ (by omega), hk16]

/-- for both block sizes and every increment the 16-bit accumulator can take without overflowing -/
theorem incCounter_natBE (bs : Nat) (hbs : bs = 16 ∨ bs = 8) (k : Nat) (hk : k ≤ 0xFF00) (v : Nat) :
    incCounter bs k (natBE bs v) = natBE bs ((v + k) % 2 ^ (8 * bs)) := by
  have hl := natBE_length bs v
  rw [incCounter_eq bs hbs k hk _ hl, ← natBE_beNat bs (beAdd k (natBE bs v)) (by rw [beAdd_length, hl]), beNat_beAdd, beNat_natBE, hl,
    pow_256, Nat.mod_add_mod]

end SkinnyVerif.Lemmas
