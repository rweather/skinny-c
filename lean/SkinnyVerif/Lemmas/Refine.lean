/-
Block-level refinement, generic in block size and build configuration: on a schedule that is
`Keyed`, the implementation's round loops compute the specification's encryption and decryption
(for any number of rounds).
-/
import SkinnyVerif.Lemmas.Schedule

namespace SkinnyVerif.Lemmas
open SkinnyVerif SkinnyVerif.Gen SkinnyVerif.Spec.Skinny SkinnyVerif.Impl

section
variable {b h s : Nat} {A : Abs b h s} {o : SkinnyOps b h}

/-- the image-level part of `ecbEncrypt` / `ecbDecrypt` -/
def encImg (o : SkinnyOps b h) (ks : KeySched h) (x : BitVec b) : BitVec b :=
  o.encStore ((List.range ks.rounds).foldl (fun st i => o.encRound st (ks.sched.getD i 0)) (o.encLoad x))
def decImg (o : SkinnyOps b h) (ks : KeySched h) (x : BitVec b) : BitVec b :=
  o.decStore ((List.range ks.rounds).foldl (fun st i => o.decRound st (ks.sched.getD (ks.rounds - 1 - i) 0)) (o.decLoad x))

theorem ecbEncrypt_eq (p : SkinnyParams) (ks : KeySched h) (input : Bytes) :
    ecbEncrypt o p ks input = bytesOf p.bs (encImg o ks (image b input)) := rfl
theorem ecbDecrypt_eq (p : SkinnyParams) (ks : KeySched h) (input : Bytes) :
    ecbDecrypt o p ks input = bytesOf p.bs (decImg o ks (image b input)) := rfl

/-- a loop of rounds over the schedule entries `g i`, `i ∈ l`, is the same loop on cells over the round keys -/
theorem foldl_keyed {rnd : BitVec b → BitVec h → BitVec b} {R : Cells s → Cells s → Cells s}
    (hR : ∀ st sk, A.cells (rnd st sk) = R (A.rk sk) (A.cells st))
    {ks : KeySched h} {r : Nat} {t : Tweakey s} {dom : BitVec s} (hk : Keyed A ks r t dom)
    (g : Nat → Nat) (l : List Nat) (hl : ∀ i ∈ l, g i < r) (x : BitVec b) :
    A.cells (l.foldl (fun st i => rnd st (ks.sched.getD (g i) 0)) x) =
      l.foldl (fun st i => R (roundKey A.co t dom (g i)) st) (A.cells x) :=
  foldl_abs A.cells _ _ l (fun st i hi => by rw [hR, hk.rk _ (hl i hi)]) x

variable (hc : OpsCorrectG A o) {ks : KeySched h} {r : Nat} {t : Tweakey s} {dom : BitVec s} (hk : Keyed A ks r t dom)
include hc hk

theorem encrypt_refines (x : BitVec b) : A.cells (encImg o ks x) = encrypt A.co r t dom (A.cells x) := by
  rw [encImg, hc.encStore, hc.encLoad, hk.rounds,
    foldl_keyed hc.encRound hk (fun i => i) (List.range r) (fun i hi => List.mem_range.mp hi)]
  rfl

theorem decrypt_refines (x : BitVec b) : A.cells (decImg o ks x) = decrypt A.co r t dom (A.cells x) := by
  rw [decImg, hc.decStore, hc.decLoad, hk.rounds,
    foldl_keyed hc.decRound hk (fun i => r - 1 - i) (List.range r) (fun i hi => by have := List.mem_range.mp hi; omega),
    foldl_countdown (fun st j => roundInv A.co (roundKey A.co t dom j) st)]
  rfl

end
end SkinnyVerif.Lemmas
