/-
The batch block function of the Mantis vector CTR back end (`mantis_ecb_encrypt_eight` in
`src/mantis-ctr-vec128.c`: eight strided counter blocks under the schedule's stored tweak): assembly of its
translated pieces and the per-lane view of that assembly.  State: four row vectors (eight lanes); tweak and
k1: scalar `MantisCells_t` images.  The lane pieces are the reference forms (`VecMantis.lean`); lane `j` of
the batch is `refCrypt` on the counter block of column `j`.
-/
import SkinnyVerif.Lemmas.VecMantis
import SkinnyVerif.Lemmas.VecCtr

namespace SkinnyVerif.Lemmas
open SkinnyVerif SkinnyVerif.Gen SkinnyVerif.Impl

theorem vmc_rc_eq : vmc_rc = mantis_rc_64le := by decide

/-! ## the first and the last segment (counter vectors as they are, whitening with the stored tweak; whitening, store) -/

theorem vmc_pre_eq (img : BitVec 512) (ks : BitVec 288) :
    vmc_pre img ks =
      (stridedG 16 8 fun j => (refPre (laneSt img j) ks (ks.extractLsb' 192 64)).1, ks.extractLsb' 192 64, ks.extractLsb' 128 64) := by
  refine Prod.ext ?_ (Prod.ext ?_ ?_) <;> transposition [stridedG, refPre, laneSt, pack4h]

theorem vmc_post_eq (st : BitVec 512) (tw k1 : BitVec 64) (ks : BitVec 288) :
    vmc_post st tw k1 ks = packLanes 64 512 (fun j => refPost (laneSt st j) tw k1 ks) 8 := by
  rw [packLanes_cells 8 8 64 rfl (by decide) (by decide) _ 8 (by decide)]
  transposition [refPost, laneSt, pack4h]

/-! ## element-wise steps on (state rows, scalar tweak) -/

/-- a lane function on images applied to every lane of the state rows -/
def mapSt (g : BitVec 64 → BitVec 64) (s : Rows128) : Rows128 := zipRowsH (fun a _ => unpackTh (g (packTh a))) s s

theorem laneOf_mapSt (g : BitVec 64 → BitVec 64) (s : Rows128) (j : Nat) (hj : j < 8) : laneOf (mapSt g s) j = g (laneOf s j) :=
  laneOf_zipRowsH (fun a _ => g a) s s j hj

/-- one step on (state rows, scalar tweak): the tweak update does not look at the state -/
def stepCtr (g : BitVec 64 → BitVec 64 → BitVec 64 × BitVec 64) (p : Rows128 × BitVec 64) : Rows128 × BitVec 64 :=
  (mapSt (fun s => (g s p.2).1) p.1, (g 0 p.2).2)

/-- lane `j` of (state rows, scalar tweak) -/
def laneCtr (j : Nat) (p : Rows128 × BitVec 64) : BitVec 64 × BitVec 64 := (laneOf p.1 j, p.2)

theorem laneCtr_stepCtr (g : BitVec 64 → BitVec 64 → BitVec 64 × BitVec 64) (hind : ∀ s s' t, (g s t).2 = (g s' t).2)
    (p : Rows128 × BitVec 64) (j : Nat) (hj : j < 8) : laneCtr j (stepCtr g p) = g (laneOf p.1 j) p.2 := by
  rw [laneCtr, stepCtr, laneOf_mapSt _ _ j hj]
  exact Prod.ext rfl (hind _ _ _)

def vcK1 (ks : BitVec 288) (img : BitVec 512) : BitVec 64 := (vmc_pre img ks).2.2
def vcA (ks : BitVec 288) (rounds : Nat) (img : BitVec 512) : Rows128 × BitVec 64 :=
  (List.range rounds).foldl (fun acc i => stepCtr (fun s t => vmc_fwd s t (vcK1 ks img) (vmc_rc.getD i 0)) acc)
    (rowsOf (vmc_pre img ks).1, (vmc_pre img ks).2.1)
def vcK1' (ks : BitVec 288) (img : BitVec 512) : BitVec 64 := (vmc_mid 0 (vcK1 ks img)).2
def vcB (ks : BitVec 288) (rounds : Nat) (img : BitVec 512) : Rows128 × BitVec 64 :=
  (List.range rounds).foldl (fun acc i => stepCtr (fun s t => vmc_bwd s t (vcK1' ks img) (vmc_rc.getD (rounds - 1 - i) 0)) acc)
    (mapSt (fun s => (vmc_mid s (vcK1 ks img)).1) (vcA ks rounds img).1, (vcA ks rounds img).2)

/-- `mantis_ecb_encrypt_eight` on the strided image of eight lane counters -/
def vecMantisCtr8 (ks : BitVec 288) (rounds : Nat) (img : BitVec 512) : BitVec 512 :=
  vmc_post (imageOf (vcB ks rounds img).1) (vcB ks rounds img).2 (vcK1' ks img) ks

/-- **lane `j` of the keystream batch is the one-block pipeline on the counter block of column `j`** -/
theorem vecMantisCtr8_lane (ks : BitVec 288) (rounds : Nat) (img : BitVec 512) (j : Nat) (hj : j < 8) :
    (vecMantisCtr8 ks rounds img).extractLsb' (64 * j) 64 =
      refCrypt mantis_rc_64le ks rounds (ks.extractLsb' 192 64) (laneSt img j) := by
  have hfold := fun {α : Type} (g : α → BitVec 64 → BitVec 64 → BitVec 64 × BitVec 64) (hind : ∀ a s s' t, (g a s t).2 = (g a s' t).2)
      (l : List α) (p : Rows128 × BitVec 64) =>
    (List.foldl_hom (laneCtr j) (g₁ := fun acc a => stepCtr (g a) acc) (g₂ := fun acc a => g a acc.1 acc.2) (l := l) (init := p)
      fun p a => (laneCtr_stepCtr (g a) (hind a) p j hj).symm).symm
  have hA : laneCtr j (vcA ks rounds img) = _ :=
    (hfold (fun i s t => vmc_fwd s t (vcK1 ks img) (vmc_rc.getD i 0)) (fun _ _ _ _ => by simp only [vmc_fwd_ref, refFwd]) (List.range rounds) _).trans
      (by rw [laneCtr, ← laneSt_eq _ j hj, vmc_pre_eq, laneSt_strided _ j hj])
  have hB : laneCtr j (vcB ks rounds img) = _ :=
    (hfold (fun i s t => vmc_bwd s t (vcK1' ks img) (vmc_rc.getD (rounds - 1 - i) 0)) (fun _ _ _ _ => by simp only [vmc_bwd_ref, refBwd]) (List.range rounds) _).trans
      (by rw [laneCtr, laneOf_mapSt _ _ j hj])
  rw [vecMantisCtr8, vmc_post_eq, ← lane, lane_packLanes 64 512 _ 8 j (by decide), if_pos hj, laneSt_imageOf _ j hj]
  change refPost (laneCtr j (vcB ks rounds img)).1 (laneCtr j (vcB ks rounds img)).2 _ _ = _
  rw [hB, show laneOf (vcA ks rounds img).1 j = _ from congrArg Prod.fst hA, show (vcA ks rounds img).2 = _ from (congrArg Prod.snd hA :)]
  simp only [refCrypt, refPre, vcK1', vcK1, vmc_pre_eq, vmc_fwd_ref, vmc_mid_ref, vmc_bwd_ref, vmc_rc_eq, refMid]

/-- the layout of the lane counters is that of `skinny64-ctr-vec128.c`: the big-endian value of the counter block in
column `j` is the column value of the lane increments (`C05_vmc_increment`) -/
theorem vmc_column_value (img : BitVec 512) (j : Nat) (hj : j < 8) :
    colVal (pos64m j) img = valLE ((List.range 8).map (fun t => (lane 8 (7 - t) (laneSt img j)).toNat)) := by
  rw [laneSt_eq img j hj]
  exact v64c_column_value img j hj

end SkinnyVerif.Lemmas
