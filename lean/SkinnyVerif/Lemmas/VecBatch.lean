/-
The shape shared by the batch functions of the SKINNY vector files (`_skinnyN_parallel_encrypt / _decrypt_vecW`
of the parallel-ECB files, `skinnyN_ecb_encrypt_four / _eight` of the CTR files).  The state is four row
vectors; lane `j` of row vector `i` holds row `i` of block `j`.  A load segment spreads `B` blocks over
the lanes, the round body - lane-generic code, one row-sized element per vector - runs on every lane for
each schedule entry, a store segment writes the blocks back.  `batchG_block`: if load and store are that
transposition and the round body is, on the rows of one lane, a scalar round function on the block packed
from them (`PiecesOK`), then the batch function runs the scalar rounds on each of its blocks.

The lane count `B`, the row width `r`, the vector width `V` and the sizes of block, schedule entry and
batch are parameters; the three files are instances (`laneRows`, `mapRows`, `vecEnc4` … unfold to them).
The transposition itself is defined for the parameters too (`transposeG`, `untransposeG`), so that a
translated load or store is compared with it in one computation, for all lanes at once; `stridedG` is the image in
which the row vectors stand one after the other in memory (the lane counters of the CTR files, the vector cells of the
Mantis files), for the segments that fill or read one.
-/
import SkinnyVerif.Lemmas.OpsCorrect
import SkinnyVerif.Impl.Skinny

namespace SkinnyVerif.Lemmas
open SkinnyVerif SkinnyVerif.Impl

/-- four rows of `w` bits: a block row by row (`w` the row width), or the four row vectors -/
abbrev Rows (w : Nat) := BitVec w × BitVec w × BitVec w × BitVec w

variable {r B V W h b : Nat}

/-- the rows of lane `j` of four row vectors -/
def laneRowsG (r : Nat) (rows : Rows V) (j : Nat) : Rows r :=
  (lane r j rows.1, lane r j rows.2.1, lane r j rows.2.2.1, lane r j rows.2.2.2)

/-- element-wise semantics of the vector operators: a lane-generic function acts on each of the `B` lanes -/
def mapRowsG (r B : Nat) (f : Rows r → Rows r) (rows : Rows V) : Rows V :=
  (packLanes r V (fun j => (f (laneRowsG r rows j)).1) B, packLanes r V (fun j => (f (laneRowsG r rows j)).2.1) B,
   packLanes r V (fun j => (f (laneRowsG r rows j)).2.2.1) B, packLanes r V (fun j => (f (laneRowsG r rows j)).2.2.2) B)

/-- row vectors packed lane by lane: lane `j` holds what was packed into it (`mapRowsG`, `transposeG`, `zipRowsH` are
such packings) -/
theorem laneRowsG_pack (hV : r * B ≤ V) (f : Nat → Rows r) (j : Nat) (hj : j < B) :
    laneRowsG r (packLanes r V (fun j => (f j).1) B, packLanes r V (fun j => (f j).2.1) B, packLanes r V (fun j => (f j).2.2.1) B,
      packLanes r V (fun j => (f j).2.2.2) B) j = f j := by
  simp only [laneRowsG, lane_packLanes r V _ B j hV, hj, if_true]

theorem laneRowsG_mapRowsG (hV : r * B ≤ V) (f : Rows r → Rows r) (rows : Rows V) (j : Nat) (hj : j < B) :
    laneRowsG r (mapRowsG r B f rows) j = f (laneRowsG r rows j) :=
  laneRowsG_pack hV (fun j => f (laneRowsG r rows j)) j hj

/-- a batch function assembled from its translated pieces (the pieces take and return rows one by one, as
the translator prints them) -/
def batchG (r B : Nat) (load : BitVec W → Rows V) (round : BitVec r → BitVec r → BitVec r → BitVec r → BitVec h → Rows r)
    (store : BitVec V → BitVec V → BitVec V → BitVec V → BitVec W) (sched : List (BitVec h)) (x : BitVec W) : BitVec W :=
  let rows := sched.foldl (fun rws sk => mapRowsG r B (fun t => round t.1 t.2.1 t.2.2.1 t.2.2.2 sk) rws) (load x)
  store rows.1 rows.2.1 rows.2.2.1 rows.2.2.2

/-- What is shown of the translated pieces of a batch function.  `pack` makes a block of the rows of a lane; load and
store are the transposition between blocks and lanes (`src x j`: the block that goes into lane `j` - the `j`-th block
of the batch for parallel ECB, the counter block of column `j` for CTR); the round body is, on the rows of a lane, the
scalar round `R` on their block. -/
structure PiecesOK (B : Nat) (pack : Rows r → BitVec b) (R : BitVec b → BitVec h → BitVec b) (src : BitVec W → Nat → BitVec b)
    (load : BitVec W → Rows V) (round : BitVec r → BitVec r → BitVec r → BitVec r → BitVec h → Rows r)
    (store : BitVec V → BitVec V → BitVec V → BitVec V → BitVec W) : Prop where
  lanes : r * B ≤ V
  load : ∀ x j, j < B → pack (laneRowsG r (load x) j) = src x j
  round : ∀ t sk, pack (round t.1 t.2.1 t.2.2.1 t.2.2.2 sk) = R (pack t) sk
  store : ∀ (rows : Rows V) j, j < B →
    (store rows.1 rows.2.1 rows.2.2.1 rows.2.2.2).extractLsb' (b * j) b = pack (laneRowsG r rows j)

variable {pack : Rows r → BitVec b} {R : BitVec b → BitVec h → BitVec b} {src : BitVec W → Nat → BitVec b}
  {load load' : BitVec W → Rows V} {round round' : BitVec r → BitVec r → BitVec r → BitVec r → BitVec h → Rows r}
  {store store' : BitVec V → BitVec V → BitVec V → BitVec V → BitVec W}

/-- block `j` of the result is the scalar rounds on the block that went into lane `j` -/
theorem batchG_block (P : PiecesOK B pack R src load round store) (sched : List (BitVec h)) (x : BitVec W) (j : Nat) (hj : j < B) :
    (batchG r B load round store sched x).extractLsb' (b * j) b = sched.foldl R (src x j) := by
  -- lane `j` of the row vectors goes through the round body on its own ...
  have hlane := List.foldl_hom (l := sched) (init := load x) (fun rws => laneRowsG r rws j)
    (g₂ := fun t sk => round t.1 t.2.1 t.2.2.1 t.2.2.2 sk)
    (fun rws sk => (laneRowsG_mapRowsG P.lanes (fun t => round t.1 t.2.1 t.2.2.1 t.2.2.2 sk) rws j hj).symm)
  show (store _ _ _ _).extractLsb' _ _ = _
  rw [P.store _ j hj, ← hlane, ← P.load x j hj]
  -- ... and packed, the round body is the scalar round
  exact (List.foldl_hom pack fun t sk => (P.round t sk).symm).symm

/-- two batch functions of which the same is shown (the word-wise and the byte-wise build of a file) agree -/
theorem batchG_eq (P : PiecesOK B pack R src load round store) (P' : PiecesOK B pack R src load' round' store')
    (sched : List (BitVec h)) (x : BitVec W) (hb : 0 < b := by decide) (hW : W ≤ b * B := by decide) :
    batchG r B load round store sched x = batchG r B load' round' store' sched x :=
  eq_of_lanes b B hb hW _ _ fun j hj => (batchG_block P sched x j hj).trans (batchG_block P' sched x j hj).symm

/-! ## the transposition

What the load and store segments of the parallel-ECB functions (and the stores of the CTR functions) compute, for any
lane count and row width; each translated segment is shown equal to it by one computation (`transposition`), and what
`PiecesOK` asks of load and store follows here, for a symbolic lane. -/

/-- row `i` of four rows -/
def rowAt (rows : Rows V) : Nat → BitVec V
  | 0 => rows.1
  | 1 => rows.2.1
  | 2 => rows.2.2.1
  | _ => rows.2.2.2

/-- `B` consecutive blocks, each its four rows one after the other, to four row vectors -/
def transposeG (r B : Nat) (x : BitVec W) : Rows V :=
  (packLanes r V (fun j => lane r (4 * j) x) B, packLanes r V (fun j => lane r (4 * j + 1) x) B,
   packLanes r V (fun j => lane r (4 * j + 2) x) B, packLanes r V (fun j => lane r (4 * j + 3) x) B)

/-- ... and back: row `k` of the batch is lane `k / 4` of row vector `k % 4` -/
def untransposeG (r B : Nat) (rows : Rows V) : BitVec W :=
  packLanes r W (fun k => lane r (k / 4) (rowAt rows (k % 4))) (4 * B)

theorem laneRowsG_transposeG (hV : r * B ≤ V) (x : BitVec W) (j : Nat) (hj : j < B) :
    laneRowsG r (transposeG r B x : Rows V) j =
      (lane r (4 * j) x, lane r (4 * j + 1) x, lane r (4 * j + 2) x, lane r (4 * j + 3) x) :=
  laneRowsG_pack hV (fun j => (lane r (4 * j) x, lane r (4 * j + 1) x, lane r (4 * j + 2) x, lane r (4 * j + 3) x)) j hj

theorem lanes_untransposeG (hW : r * (4 * B) ≤ W) (rows : Rows V) (j : Nat) (hj : j < B) :
    (lane r (4 * j) (untransposeG r B rows : BitVec W), lane r (4 * j + 1) (untransposeG r B rows : BitVec W),
     lane r (4 * j + 2) (untransposeG r B rows : BitVec W), lane r (4 * j + 3) (untransposeG r B rows : BitVec W)) =
      laneRowsG r rows j := by
  have h0 : 4 * j < 4 * B := by omega
  have h1 : 4 * j + 1 < 4 * B := by omega
  have h2 : 4 * j + 2 < 4 * B := by omega
  have h3 : 4 * j + 3 < 4 * B := by omega
  simp only [untransposeG, laneRowsG, lane_packLanes r W _ (4 * B) _ hW, h0, h1, h2, h3, if_true, Nat.mul_add_div,
    Nat.mul_add_mod, Nat.mul_div_cancel_left, Nat.mul_mod_right, Nat.reduceDiv, Nat.reduceMod, Nat.add_zero, Nat.zero_lt_succ, rowAt]

/-- a store that is the transposition back; `hp`: `pack` makes the block of four consecutive rows -/
theorem store_of_untransposeG
    (hp : ∀ (x : BitVec W) j, pack (lane r (4 * j) x, lane r (4 * j + 1) x, lane r (4 * j + 2) x, lane r (4 * j + 3) x) = lane b j x)
    (hs : ∀ r0 r1 r2 r3, store r0 r1 r2 r3 = untransposeG r B (r0, r1, r2, r3)) (hW : r * (4 * B) ≤ W := by decide)
    (rows : Rows V) (j : Nat) (hj : j < B) :
    (store rows.1 rows.2.1 rows.2.2.1 rows.2.2.2).extractLsb' (b * j) b = pack (laneRowsG r rows j) := by
  rw [hs, ← lanes_untransposeG hW rows j hj, hp]; rfl

/-- the pieces of a parallel-ECB batch function, from load and store as equations -/
theorem PiecesOK.of_transposition
    (hp : ∀ (x : BitVec W) j, pack (lane r (4 * j) x, lane r (4 * j + 1) x, lane r (4 * j + 2) x, lane r (4 * j + 3) x) = lane b j x)
    (hl : ∀ x, load x = transposeG r B x) (hr : ∀ t sk, pack (round t.1 t.2.1 t.2.2.1 t.2.2.2 sk) = R (pack t) sk)
    (hs : ∀ r0 r1 r2 r3, store r0 r1 r2 r3 = untransposeG r B (r0, r1, r2, r3))
    (hV : r * B ≤ V := by decide) (hW : r * (4 * B) ≤ W := by decide) :
    PiecesOK B pack R (fun x j => lane b j x) load round store :=
  ⟨hV, fun x j hj => by rw [hl, laneRowsG_transposeG hV x j hj, hp], hr, store_of_untransposeG hp hs hW⟩

theorem or_congr {a a' c c' : BitVec W} (h : a = a') (h' : c = c') : a ||| c = a' ||| c' := by rw [h, h']

/-- A load or store segment against the transposition (the list names the table of segments), or against another packing
of lanes: both sides are unfolded to their or-chains of shifted rows; on the way the bytes a word is read or written by
join into windows of the row (`win_join`, `win_join_shl`; `win_ext` for the integer promotion of a byte).  Where the
segment also computes (the whitening in the Mantis files), the chains are not yet the same term: they are taken apart
along `|||` and compared element by element, up to the order of the operands. -/
syntax "transposition" " [" Lean.Parser.Tactic.simpLemma,* "]" : tactic
macro_rules
  | `(tactic| transposition [$ls,*]) => `(tactic|
      (windows [transposeG, untransposeG, packLanes, rowAt, win_join, win_join_shl, win_ext, BitVec.shiftLeft_zero, Nat.reduceDiv, $ls,*]
        <;> repeat' with_reducible apply or_congr) <;> ac_rfl)

/-! ## row-sliced images

Where the row vectors are kept in memory one after the other (the lane counters of the CTR files, `MantisVectorCells_t`),
the segments that fill or read such an image are compared with these forms, again in one computation for all lanes. -/

/-- the row-sliced image of `B` blocks: lane `j` of row vector `i` holds row `i` of block `j` -/
def stridedG (r B : Nat) (blk : Nat → BitVec b) : BitVec W := packLanes r W (fun k => lane r (k / B) (blk (k % B))) (4 * B)

theorem lane_stridedG (hW : r * (4 * B) ≤ W) (blk : Nat → BitVec b) (i j : Nat) (hi : i < 4) (hj : j < B) :
    lane r (B * i + j) (stridedG r B blk : BitVec W) = lane r i (blk j) := by
  have h : B * i + j < 4 * B := by
    have := Nat.mul_le_mul_left B (Nat.succ_le_of_lt hi)
    rw [Nat.mul_succ] at this
    omega
  rw [stridedG, lane_packLanes r W _ _ _ hW, if_pos h, Nat.mul_add_div (by omega), Nat.mul_add_mod, Nat.div_eq_of_lt hj,
    Nat.mod_eq_of_lt hj, Nat.add_zero]

/-- a word packed from `B` lanes of `n` cells each is packed from their `n * B` cells (a store segment that writes its
blocks byte by byte is compared with the right side) -/
theorem packLanes_cells (k n m : Nat) (hm : m = k * n) (hk : 0 < k) (hn : 0 < n) (g : Nat → BitVec m) (B : Nat) (hW : m * B ≤ W) :
    packLanes m W g B = packLanes k W (fun q => lane k (q % n) (g (q / n))) (n * B) := by
  subst hm
  apply eq_of_lanes k W hk (Nat.le_mul_of_pos_left W hk)
  intro q _
  -- cell `q` of a word is cell `q % n` of its lane `q / n`
  have e : ∀ X : BitVec W, lane k q X = lane k (q % n) (lane (k * n) (q / n) X) := fun X => by
    show _ = lane k (q % n) (BitVec.extractLsb' _ _ X)
    rw [lane_extractLsb' k (q % n) _ _ X (Nat.mul_le_mul_left k (Nat.mod_lt q hn)), Nat.mul_assoc, ← Nat.mul_add,
      Nat.div_add_mod, lane]
  rw [e, lane_packLanes _ _ _ _ _ hW, lane_packLanes k W _ (n * B) q (by rwa [← Nat.mul_assoc])]
  have hq : q / n < B ↔ q < n * B := by rw [Nat.mul_comm]; exact Nat.div_lt_iff_lt_mul hn
  by_cases h : q / n < B
  · rw [if_pos h, if_pos (hq.mp h)]
  · rw [if_neg h, if_neg (mt hq.mpr h)]
    exact BitVec.extractLsb'_zero

/-! The scalar block functions of a configuration of the C library (transparent load and store) are the rounds folded
over the schedule in the order the loops walk it. -/

theorem ecbEncrypt_fold {s : Nat} {A : Abs b h s} {o : SkinnyOps b h} (C : OpsCorrectG A o) (p : SkinnyParams) (ks : KeySched h)
    (blk : Bytes) :
    bytesOf p.bs (((List.range ks.rounds).map fun i => ks.sched.getD i 0).foldl o.encRound (image b blk)) =
      ecbEncrypt o p ks blk := by
  simp only [ecbEncrypt, List.foldl_map, C.encLoad, C.encStore]

theorem ecbDecrypt_fold {s : Nat} {A : Abs b h s} {o : SkinnyOps b h} (C : OpsCorrectG A o) (p : SkinnyParams) (ks : KeySched h)
    (blk : Bytes) :
    bytesOf p.bs (((List.range ks.rounds).map fun i => ks.sched.getD (ks.rounds - 1 - i) 0).foldl o.decRound (image b blk)) =
      ecbDecrypt o p ks blk := by
  simp only [ecbDecrypt, List.foldl_map, C.decLoad, C.decStore]

end SkinnyVerif.Lemmas
