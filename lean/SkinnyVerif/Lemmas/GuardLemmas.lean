/-
What the generated argument guards say, for every 32-bit size: accepted exactly in the
documented ranges.
-/
import SkinnyVerif.Impl.Mantis

namespace SkinnyVerif.Lemmas
open SkinnyVerif SkinnyVerif.Gen SkinnyVerif.Impl

theorem ult_ofNat32 {m n : Nat} (hm : m < 2 ^ 32) (hn : n < 2 ^ 32) :
    BitVec.ult (BitVec.ofNat 32 m) (BitVec.ofNat 32 n) = decide (m < n) := by
  simp [BitVec.ult, BitVec.toNat_ofNat, Nat.mod_eq_of_lt hm, Nat.mod_eq_of_lt hn]

theorem ofNat32_ne (n c : Nat) (hn : n < 2 ^ 32) (hc : c < 2 ^ 32) :
    (BitVec.ofNat 32 n != BitVec.ofNat 32 c) = decide (n ≠ c) := by
  have : (BitVec.ofNat 32 n = BitVec.ofNat 32 c) ↔ n = c := by
    constructor
    · intro h
      have := congrArg BitVec.toNat h
      simpa [BitVec.toNat_ofNat, Nat.mod_eq_of_lt hn, Nat.mod_eq_of_lt hc] using this
    · intro h; rw [h]
  by_cases h : n = c <;> simp [bne, this, h]

/-- `skinny128_set_key`: rejected iff a pointer is null or the size is outside 16..48 -/
theorem guard128_setKey (kn : Bool) (n : Nat) (hn : n < 2 ^ 32) :
    guards128.setKey false kn (BitVec.ofNat 32 n) = (kn || decide (n < 16) || decide (48 < n)) := by
  simp only [guards128, skinny128_set_key_guard, Bool.false_or]
  rw [ult_ofNat32 hn (by decide), ult_ofNat32 (by decide) hn]

theorem guard128_setTweakedKey (kn : Bool) (n : Nat) (hn : n < 2 ^ 32) :
    guards128.setTweakedKey false kn (BitVec.ofNat 32 n) = (kn || decide (n < 16) || decide (32 < n)) := by
  simp only [guards128, skinny128_set_tweaked_key_guard, Bool.false_or]
  rw [ult_ofNat32 hn (by decide), ult_ofNat32 (by decide) hn]

theorem guard128_setTweak (tn : Bool) (n : Nat) (hn : n < 2 ^ 32) :
    guards128.setTweak false tn (BitVec.ofNat 32 n) = (decide (n < 1) || decide (16 < n)) := by
  simp only [guards128, skinny128_set_tweak_guard, Bool.false_or]
  rw [ult_ofNat32 hn (by decide), ult_ofNat32 (by decide) hn]

theorem guard64_setKey (kn : Bool) (n : Nat) (hn : n < 2 ^ 32) :
    guards64.setKey false kn (BitVec.ofNat 32 n) = (kn || decide (n < 8) || decide (24 < n)) := by
  simp only [guards64, skinny64_set_key_guard, Bool.false_or]
  rw [ult_ofNat32 hn (by decide), ult_ofNat32 (by decide) hn]

theorem guard64_setTweakedKey (kn : Bool) (n : Nat) (hn : n < 2 ^ 32) :
    guards64.setTweakedKey false kn (BitVec.ofNat 32 n) = (kn || decide (n < 8) || decide (16 < n)) := by
  simp only [guards64, skinny64_set_tweaked_key_guard, Bool.false_or]
  rw [ult_ofNat32 hn (by decide), ult_ofNat32 (by decide) hn]

theorem guard64_setTweak (tn : Bool) (n : Nat) (hn : n < 2 ^ 32) :
    guards64.setTweak false tn (BitVec.ofNat 32 n) = (decide (n < 1) || decide (8 < n)) := by
  simp only [guards64, skinny64_set_tweak_guard, Bool.false_or]
  rw [ult_ofNat32 hn (by decide), ult_ofNat32 (by decide) hn]

/-- `mantis_set_key`: rejected iff null, size ≠ 16, or rounds outside 5..8 (the mode is not validated) -/
theorem guardMantis_setKey (kn : Bool) (size rounds : Nat) (mode : Int) (hs : size < 2 ^ 32) (hr : rounds < 2 ^ 32) :
    mantisSetKeyGuard false kn size rounds mode = (kn || decide (size ≠ 16) || decide (rounds < 5) || decide (8 < rounds)) := by
  simp only [mantisSetKeyGuard, mantis_set_key_guard, Bool.false_or]
  rw [ofNat32_ne size 16 hs (by decide), ult_ofNat32 hr (by decide), ult_ofNat32 (by decide) hr]

theorem guardMantis_setTweak (tn : Bool) (size : Nat) (hs : size < 2 ^ 32) :
    mantisSetTweakGuard false tn size = decide (size ≠ 8) := by
  simp only [mantisSetTweakGuard, mantis_set_tweak_guard, Bool.false_or]
  rw [ofNat32_ne size 8 hs (by decide)]

end SkinnyVerif.Lemmas
