/-
Reference forms of the MANTIS pieces at the level of 8-byte memory images, in terms of the
64-bit leaf functions.  The generated pieces of every translation are shown equal to these
(`Lemmas/MantisPieces.lean`, `Lemmas/VecMantis.lean`); the references are related to the
specification once (`Lemmas/MantisRefine.lean`).
-/
import SkinnyVerif.Basic.Tactics
import SkinnyVerif.Gen.MantisPieces
import SkinnyVerif.Impl.Mantis

namespace SkinnyVerif.Lemmas
open SkinnyVerif SkinnyVerif.Gen SkinnyVerif.Impl

/-- memory image of α (the bytes of the big-endian constant, read little-endian) -/
def alphaImg : BitVec 64 := 0xd308a385886a3f24#64

def refPre (input : BitVec 64) (ks : BitVec 288) (tw : BitVec 64) : BitVec 64 × BitVec 64 × BitVec 64 :=
  (input ^^^ ((ks.extractLsb' 0 64 ^^^ ks.extractLsb' 128 64) ^^^ tw), tw, ks.extractLsb' 128 64)

def refFwd (st tw k1 r : BitVec 64) : BitVec 64 × BitVec 64 :=
  (mantis_mix_columns (mantis_shift_rows ((mantis_sbox_64 st ^^^ r) ^^^ (k1 ^^^ mantis_update_tweak tw))), mantis_update_tweak tw)

def refMid (st k1 : BitVec 64) : BitVec 64 × BitVec 64 :=
  (mantis_sbox_64 (mantis_mix_columns (mantis_sbox_64 st)), k1 ^^^ alphaImg)

def refBwd (st tw k1 r : BitVec 64) : BitVec 64 × BitVec 64 :=
  (mantis_sbox_64 ((mantis_shift_rows_inverse (mantis_mix_columns st) ^^^ (k1 ^^^ tw)) ^^^ r), mantis_update_tweak_inverse tw)

def refPost (st tw k1 : BitVec 64) (ks : BitVec 288) : BitVec 64 :=
  st ^^^ ((ks.extractLsb' 64 64 ^^^ k1) ^^^ tw)

/-- what has to be shown about one configuration's pieces -/
structure MantisPiecesOK (o : MantisOps) : Prop where
  pre : ∀ input ks, o.pre input ks = refPre input ks (ks.extractLsb' 192 64)
  fwd : ∀ st tw k1 r, o.fwd st tw k1 r = refFwd st tw k1 r
  mid : ∀ st k1, o.mid st k1 = refMid st k1
  bwd : ∀ st tw k1 r, o.bwd st tw k1 r = refBwd st tw k1 r
  post : ∀ st tw k1 ks, o.post st tw k1 ks = refPost st tw k1 ks
  preT : ∀ input ks tw, o.preT input ks tw = refPre input ks tw
  fwdT : ∀ st tw k1 r, o.fwdT st tw k1 r = refFwd st tw k1 r
  midT : ∀ st k1, o.midT st k1 = refMid st k1
  bwdT : ∀ st tw k1 r, o.bwdT st tw k1 r = refBwd st tw k1 r
  postT : ∀ st tw k1 ks, o.postT st tw k1 ks = refPost st tw k1 ks

/-- bit-by-bit comparison of two 64-bit images: the permutation and MixColumns leaves are
unfolded, the S-box leaves are seen through with their lane lemmas -/
syntax "mantis_bits" : tactic
macro_rules
  | `(tactic| mantis_bits) => `(tactic|
    (bv_bits 64 <;>
      (simp [gen_unfold, refPre, refFwd, refMid, refBwd, refPost, alphaImg, lane, extractLsb'_extractLsb'_le,
             mantis_mix_columns, mantis_shift_rows, mantis_shift_rows_inverse, mantis_update_tweak, mantis_update_tweak_inverse,
             mantis_sbox_64_getElem, mantis_sbox_32_getElem, msbox_64_lane, msbox_32_lane]
       try ac_rfl)))

/-- variant for images that end with the S-box layer -/
syntax "mantis_bits_sbox" : tactic
macro_rules
  | `(tactic| mantis_bits_sbox) => `(tactic|
    (bv_bits 64 <;>
      (simp [gen_unfold, refPre, refFwd, refMid, refBwd, refPost, alphaImg, lane, extractLsb'_extractLsb'_le,
             mantis_mix_columns, mantis_shift_rows, mantis_shift_rows_inverse, mantis_update_tweak, mantis_update_tweak_inverse,
             mantis_sbox_64_getElem, mantis_sbox_32_getElem, msbox_64_lane, msbox_32_lane]
       try (apply getElem_congr_fun
            bv_bits 4 <;> (simp; try ac_rfl)))))

/-- S-box layer applied to an image that itself contains per-half S-box results (32-bit word configurations) -/
syntax "mantis_bits_sbox2" : tactic
macro_rules
  | `(tactic| mantis_bits_sbox2) => `(tactic|
    (bv_bits 64 <;>
      (simp [gen_unfold, refPre, refFwd, refMid, refBwd, refPost, alphaImg, lane, extractLsb'_extractLsb'_le,
             mantis_mix_columns, mantis_shift_rows, mantis_shift_rows_inverse, mantis_update_tweak, mantis_update_tweak_inverse,
             mantis_sbox_64_getElem, mantis_sbox_32_getElem, msbox_64_lane, msbox_32_lane]
       try (apply getElem_congr_fun
            bv_bits 4 <;>
              (simp [lane, extractLsb'_extractLsb'_le, mantis_sbox_64_getElem, mantis_sbox_32_getElem, msbox_64_lane, msbox_32_lane]
               try ac_rfl)))))

end SkinnyVerif.Lemmas
