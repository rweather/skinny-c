/-
The 128-bit vector back end of Mantis parallel ECB (`src/mantis-parallel-vec128.c`, eight blocks per group):
the translated pieces, their assembly into `_mantis_parallel_crypt_vec128` on one group of eight blocks, and
the per-lane view of that assembly.  The translator turns the three lane-generic pieces (forward round,
middle, backward round) into functions on one lane - a 64-bit image with the layout of the scalar
`MantisCells_t` - and the first / last segment (load + whitening, whitening + store) into explicit-lane
functions.  The lane pieces are the reference forms (here also for the CTR file `src/mantis-ctr-vec128.c`,
whose assembly is in `VecMantisCtr.lean`); lane `j` of the group is `refCrypt` on block `j` and tweak `j`.
-/
import SkinnyVerif.Lemmas.MantisRefine
import SkinnyVerif.Lemmas.MantisPieces
import SkinnyVerif.Lemmas.VecBase
import SkinnyVerif.Lemmas.VecBatch
import SkinnyVerif.Gen.VecMantisLeafLanes
import SkinnyVerif.Gen.VecMantisPieces
import SkinnyVerif.Gen.VecMantisCtrLeafLanes
import SkinnyVerif.Gen.VecMantisCtrPieces

namespace SkinnyVerif.Lemmas
open SkinnyVerif SkinnyVerif.Gen SkinnyVerif.Impl

/-! ## the lane-generic pieces

The vector files have the row operations inline, so here the permutation leaves of the reference are
unfolded as well. -/

theorem vmp_fwd_ref : vmp_fwd = refFwd := by
  funext st tk k1 r; refine Prod.ext ?_ ?_ <;> img_nibbles [mix_columns_win, mantis_shift_rows, mantis_update_tweak]
theorem vmp_mid_ref : vmp_mid = refMid := by
  funext st k1; refine Prod.ext ?_ ?_ <;> img_nibbles [mix_columns_win]
theorem vmp_bwd_ref : vmp_bwd = refBwd := by
  funext st tk k1 r; refine Prod.ext ?_ ?_ <;> img_nibbles [mix_columns_win, mantis_shift_rows_inverse, mantis_update_tweak_inverse]

theorem vmc_fwd_ref : vmc_fwd = refFwd := by
  funext st tk k1 r; refine Prod.ext ?_ ?_ <;> img_nibbles [mix_columns_win, mantis_shift_rows, mantis_update_tweak]
theorem vmc_mid_ref : vmc_mid = refMid := by
  funext st k1; refine Prod.ext ?_ ?_ <;> img_nibbles [mix_columns_win]
theorem vmc_bwd_ref : vmc_bwd = refBwd := by
  funext st tk k1 r; refine Prod.ext ?_ ?_ <;> img_nibbles [mix_columns_win, mantis_shift_rows_inverse, mantis_update_tweak_inverse]

/-- the vector file's round-constant table has the same memory image as the scalar one -/
theorem vmp_rc_eq : vmp_rc = mantis_rc_64le := by decide

/-! ## rows, lanes and element-wise steps -/

abbrev Rows128 := BitVec 128 × BitVec 128 × BitVec 128 × BitVec 128

/-- the four 16-bit rows of a 64-bit Mantis state image -/
def unpackTh (s : BitVec 64) : Rows16 := (s.extractLsb' 0 16, s.extractLsb' 16 16, s.extractLsb' 32 16, s.extractLsb' 48 16)

theorem packTh_unpackTh (s : BitVec 64) : packTh (unpackTh s) = s := by
  lanewise 16 4 [packTh, pack4h, unpackTh]

theorem unpackTh_packTh (t : Rows16) : unpackTh (packTh t) = t := by
  refine Prod.ext ?_ (Prod.ext ?_ (Prod.ext ?_ ?_)) <;> windows [unpackTh, packTh, pack4h]

/-- the four row vectors of the image of `MantisVectorCells_t` -/
def rowsOf (x : BitVec 512) : Rows128 := (x.extractLsb' 0 128, x.extractLsb' 128 128, x.extractLsb' 256 128, x.extractLsb' 384 128)
def imageOf (r : Rows128) : BitVec 512 :=
  r.1.setWidth 512 ||| (r.2.1.setWidth 512 <<< 128) ||| (r.2.2.1.setWidth 512 <<< 256) ||| (r.2.2.2.setWidth 512 <<< 384)

theorem rowsOf_imageOf (r : Rows128) : rowsOf (imageOf r) = r := by
  refine Prod.ext ?_ (Prod.ext ?_ (Prod.ext ?_ ?_)) <;> windows [rowsOf, imageOf]

/-- the block of lane `j` of four row vectors -/
def laneOf (r : Rows128) (j : Nat) : BitVec 64 := packTh (laneRowsH r j)

/-- block of lane `j` in the row-sliced image of `MantisVectorCells_t` (four rows of eight 16-bit lanes) -/
def laneSt (x : BitVec 512) (j : Nat) : BitVec 64 :=
  pack4h (x.extractLsb' (16 * j) 16) (x.extractLsb' (128 + 16 * j) 16) (x.extractLsb' (256 + 16 * j) 16) (x.extractLsb' (384 + 16 * j) 16)

theorem laneSt_eq (x : BitVec 512) (j : Nat) (hj : j < 8) : laneSt x j = laneOf (rowsOf x) j := by
  simp only [laneSt, laneOf, packTh, laneRowsH, rowsOf, lane_extractLsb' 16 j _ 128 x (by omega), Nat.zero_add]

theorem laneSt_imageOf (r : Rows128) (j : Nat) (hj : j < 8) : laneSt (imageOf r) j = laneOf r j := by
  rw [laneSt_eq _ j hj, rowsOf_imageOf]

theorem laneSt_strided (blk : Nat → BitVec 64) (j : Nat) (hj : j < 8) : laneSt (stridedG 16 8 blk) j = blk j := by
  -- row `i` of the column is lane `8 i + j` of the image
  have e := fun i hi => lane_stridedG (r := 16) (W := 512) (by decide) blk i j hi hj
  have e0 := e 0 (by decide); have e1 := e 1 (by decide); have e2 := e 2 (by decide); have e3 := e 3 (by decide)
  simp only [lane, Nat.mul_add, Nat.reduceMul, Nat.zero_add] at e0 e1 e2 e3
  rw [laneSt, e0, e1, e2, e3]
  exact packTh_unpackTh (blk j)

/-- element-wise semantics for a piece that takes and returns two vector-cell objects (state, tweak) -/
def zipRowsH (f : Rows16 → Rows16 → Rows16) (s t : Rows128) : Rows128 :=
  (packLanes 16 128 (fun j => (f (laneRowsH s j) (laneRowsH t j)).1) 8, packLanes 16 128 (fun j => (f (laneRowsH s j) (laneRowsH t j)).2.1) 8,
   packLanes 16 128 (fun j => (f (laneRowsH s j) (laneRowsH t j)).2.2.1) 8, packLanes 16 128 (fun j => (f (laneRowsH s j) (laneRowsH t j)).2.2.2) 8)

theorem laneRowsH_zipRowsH (f : Rows16 → Rows16 → Rows16) (s t : Rows128) (j : Nat) (hj : j < 8) :
    laneRowsH (zipRowsH f s t) j = f (laneRowsH s j) (laneRowsH t j) :=
  laneRowsG_pack (r := 16) (by decide) (fun j => f (laneRowsH s j) (laneRowsH t j)) j hj

theorem laneOf_zipRowsH (g : BitVec 64 → BitVec 64 → BitVec 64) (s t : Rows128) (j : Nat) (hj : j < 8) :
    laneOf (zipRowsH (fun a b => unpackTh (g (packTh a) (packTh b))) s t) j = g (laneOf s j) (laneOf t j) := by
  simp only [laneOf, laneRowsH_zipRowsH _ _ _ j hj, packTh_unpackTh]

/-- a lane function on images, applied to every lane of (state, tweak) -/
def stepAll (g : BitVec 64 → BitVec 64 → BitVec 64 × BitVec 64) (p : Rows128 × Rows128) : Rows128 × Rows128 :=
  (zipRowsH (fun a b => unpackTh (g (packTh a) (packTh b)).1) p.1 p.2, zipRowsH (fun a b => unpackTh (g (packTh a) (packTh b)).2) p.1 p.2)

/-- lane `j` of a pair of vector-cell objects (state, tweak) -/
def lanePair (j : Nat) (p : Rows128 × Rows128) : BitVec 64 × BitVec 64 := (laneOf p.1 j, laneOf p.2 j)

theorem lanePair_stepAll (g : BitVec 64 → BitVec 64 → BitVec 64 × BitVec 64) (p : Rows128 × Rows128) (j : Nat) (hj : j < 8) :
    lanePair j (stepAll g p) = g (laneOf p.1 j) (laneOf p.2 j) := by
  simp only [lanePair, stepAll, laneOf_zipRowsH (fun a b => (g a b).1) _ _ j hj, laneOf_zipRowsH (fun a b => (g a b).2) _ _ j hj]

/-! ## the first and the last segment

Load with whitening, whitening with store: each against the packing of what it does to one lane, by the computation that
compares the SKINNY segments with the transposition - both sides as chains of the cells the segment writes (16-bit
elements of the row vectors, bytes of the output), so that no cell is looked up in a chain. -/

theorem vmp_pre_eq (input : BitVec 512) (ks : BitVec 288) (tweak : BitVec 512) :
    vmp_pre input ks tweak =
      (stridedG 16 8 fun j => (refPre (lane 64 j input) ks (lane 64 j tweak)).1, stridedG 16 8 fun j => lane 64 j tweak, ks.extractLsb' 128 64) := by
  refine Prod.ext ?_ (Prod.ext ?_ ?_) <;> transposition [stridedG, refPre]

theorem vmp_post_eq (st tk : BitVec 512) (k1 : BitVec 64) (ks : BitVec 288) :
    vmp_post st tk k1 ks = packLanes 64 512 (fun j => refPost (laneSt st j) (laneSt tk j) k1 ks) 8 := by
  rw [packLanes_cells 8 8 64 rfl (by decide) (by decide) _ 8 (by decide)]
  transposition [refPost, laneSt, pack4h]

/-! `_mantis_parallel_crypt_vec128` on one group of eight blocks with their eight tweaks, stage by stage.
`rounds` and the key-schedule image `ks` are what the C function reads from `MantisKey_t`. -/

/-- k1 as loaded by the first segment -/
def vmK1 (ks : BitVec 288) (input tweak : BitVec 512) : BitVec 64 := (vmp_pre input ks tweak).2.2
/-- state and tweak rows after the forward rounds -/
def vmA (ks : BitVec 288) (rounds : Nat) (input tweak : BitVec 512) : Rows128 × Rows128 :=
  (List.range rounds).foldl (fun acc i => stepAll (fun s t => vmp_fwd s t (vmK1 ks input tweak) (vmp_rc.getD i 0)) acc)
    (rowsOf (vmp_pre input ks tweak).1, rowsOf (vmp_pre input ks tweak).2.1)
/-- k1 xor alpha, as computed by the middle section -/
def vmK1' (ks : BitVec 288) (input tweak : BitVec 512) : BitVec 64 := (vmp_mid 0 (vmK1 ks input tweak)).2
/-- state rows after the middle section -/
def vmSt (ks : BitVec 288) (rounds : Nat) (input tweak : BitVec 512) : Rows128 :=
  zipRowsH (fun s _ => unpackTh (vmp_mid (packTh s) (vmK1 ks input tweak)).1) (vmA ks rounds input tweak).1 (vmA ks rounds input tweak).2
/-- state and tweak rows after the backward rounds -/
def vmB (ks : BitVec 288) (rounds : Nat) (input tweak : BitVec 512) : Rows128 × Rows128 :=
  (List.range rounds).foldl (fun acc i => stepAll (fun s t => vmp_bwd s t (vmK1' ks input tweak) (vmp_rc.getD (rounds - 1 - i) 0)) acc)
    (vmSt ks rounds input tweak, (vmA ks rounds input tweak).2)

def vecMantis8 (ks : BitVec 288) (rounds : Nat) (input tweak : BitVec 512) : BitVec 512 :=
  vmp_post (imageOf (vmB ks rounds input tweak).1) (imageOf (vmB ks rounds input tweak).2) (vmK1' ks input tweak) ks

/-- **lane `j` of the vector group is the one-block pipeline on block `j` and tweak `j`** -/
theorem vecMantis8_lane (ks : BitVec 288) (rounds : Nat) (input tweak : BitVec 512) (j : Nat) (hj : j < 8) :
    (vecMantis8 ks rounds input tweak).extractLsb' (64 * j) 64 =
      refCrypt mantis_rc_64le ks rounds (tweak.extractLsb' (64 * j) 64) (input.extractLsb' (64 * j) 64) := by
  -- lane `j` goes through an element-wise loop on its own
  have hfold := fun {α : Type} (g : α → BitVec 64 → BitVec 64 → BitVec 64 × BitVec 64) (l : List α) (p : Rows128 × Rows128) =>
    (List.foldl_hom (lanePair j) (g₁ := fun acc a => stepAll (g a) acc) (g₂ := fun acc a => g a acc.1 acc.2) (l := l) (init := p)
      fun p a => (lanePair_stepAll (g a) p j hj).symm).symm
  have hA : lanePair j (vmA ks rounds input tweak) = _ :=
    (hfold (fun i s t => vmp_fwd s t (vmK1 ks input tweak) (vmp_rc.getD i 0)) (List.range rounds) _).trans
      (by rw [lanePair, ← laneSt_eq _ j hj, ← laneSt_eq _ j hj, vmp_pre_eq, laneSt_strided _ j hj, laneSt_strided _ j hj])
  have hB : lanePair j (vmB ks rounds input tweak) = _ :=
    (hfold (fun i s t => vmp_bwd s t (vmK1' ks input tweak) (vmp_rc.getD (rounds - 1 - i) 0)) (List.range rounds) _).trans
      (by rw [lanePair, vmSt, laneOf_zipRowsH (fun s _ => (vmp_mid s _).1) _ _ j hj])
  rw [vecMantis8, vmp_post_eq, ← lane, lane_packLanes 64 512 _ 8 j (by decide), if_pos hj, laneSt_imageOf _ j hj, laneSt_imageOf _ j hj]
  change refPost (lanePair j (vmB ks rounds input tweak)).1 (lanePair j (vmB ks rounds input tweak)).2 _ _ = _
  rw [hB, show laneOf (vmA ks rounds input tweak).1 j = _ from congrArg Prod.fst hA,
    show laneOf (vmA ks rounds input tweak).2 j = _ from congrArg Prod.snd hA]
  simp only [refCrypt, refPre, vmK1', vmK1, vmp_pre_eq, vmp_fwd_ref, vmp_mid_ref, vmp_bwd_ref, vmp_rc_eq, refMid, lane]

end SkinnyVerif.Lemmas
