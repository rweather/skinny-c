/-
MANTIS key material: big-endian words of the specification versus little-endian memory images,
`k0' = (k0 ⋙ 1) ⊕ (k0 ≫ 63)` as computed byte-wise by `mantis_unpack_rotated_block`, and what the
key-handling functions of a table have to satisfy (`MantisKeysOK`) for a schedule to hold the
specification's key material (`keysOf_setKey`).
-/
import SkinnyVerif.Lemmas.MantisLeaf
import SkinnyVerif.Lemmas.MantisRef
import SkinnyVerif.Lemmas.ByteCells

namespace SkinnyVerif.Lemmas
open SkinnyVerif SkinnyVerif.Gen SkinnyVerif.Impl SkinnyVerif.Spec.Skinny SkinnyVerif.Spec.Mantis

/-! ## byte order -/

/-- byte reversal of a 64-bit word -/
def bswap64 (x : BitVec 64) : BitVec 64 :=
  ((x.extractLsb' 0 8).setWidth 64 <<< 56) ||| ((x.extractLsb' 8 8).setWidth 64 <<< 48) |||
  ((x.extractLsb' 16 8).setWidth 64 <<< 40) ||| ((x.extractLsb' 24 8).setWidth 64 <<< 32) |||
  ((x.extractLsb' 32 8).setWidth 64 <<< 24) ||| ((x.extractLsb' 40 8).setWidth 64 <<< 16) |||
  ((x.extractLsb' 48 8).setWidth 64 <<< 8) ||| (x.extractLsb' 56 8).setWidth 64


theorem lane8_bswap64 (x : BitVec 64) (i : Nat) (hi : i < 8) : lane 8 i (bswap64 x) = lane 8 (7 - i) x := by
  nat_cases i 8 <;> windows [bswap64]

theorem beWord_eq (b : Bytes) : beWord b = image 64 b.reverse := by
  simp [beWord, image, foldl_be, beNat]

theorem image_reverse8 (b : Bytes) (hb : b.length = 8) : image 64 b.reverse = bswap64 (image 64 b) := by
  apply eq_of_lanes 8 8 (by decide) (by decide)
  intro i hi
  rw [lane8_bswap64 _ _ hi, lane8_image 64 _ i (by omega), lane8_image 64 _ (7 - i) (by omega)]
  congr 2
  rw [List.getD_eq_getElem?_getD, List.getD_eq_getElem?_getD, List.getElem?_reverse (by omega)]
  congr 2
  omega

theorem beWord_bswap (b : Bytes) (hb : b.length = 8) : beWord b = bswap64 (image 64 b) := by
  rw [beWord_eq, image_reverse8 b hb]

theorem cellsOfWord_get (x : BitVec 64) (i : Nat) (hi : i < 16) : (cellsOfWord x)[i] = (x >>> (4 * (15 - i))).setWidth 4 := by
  simp [cellsOfWord]

/-- the cells of a big-endian word are the cells of the byte-reversed image -/
theorem cellsOfWord_bswap (x : BitVec 64) : cellsOfWord (bswap64 x) = cells4 x := by
  rw [cells_eta (cells4 x)]; cellwise cellsOfWord_get [bswap64]

/-! ## `k0'` -/

/-- `mantis_unpack_rotated_block` computes `k0'` of the big-endian word; the rotation is by one bit, so the two are
compared bit by bit -/
theorem rot_word (x : BitVec 64) : bswap64 (mantis_unpack_rotated_block_le x) = k0prime (bswap64 x) := by
  lanewise 1 64 [bswap64, mantis_unpack_rotated_block_le, k0prime, BitVec.rotateRight_def]

theorem rot_le_cells (x : BitVec 64) : cells4 (mantis_unpack_rotated_block_le x) = cellsOfWord (k0prime (bswap64 x)) := by
  rw [← rot_word, cellsOfWord_bswap]

theorem alphaImg_cells : cells4 alphaImg = cellsOfWord alpha := by decide +kernel

/-! ## the key material of a schedule -/

/-- the key material of a schedule, as the specification sees it -/
def keysOf (ks : MantisKey) : Keys := { k0 := cells4 ks.k0, k0' := cells4 ks.k0prime, k1 := cells4 ks.k1 }

/-- what has to be shown about one configuration's key-handling functions -/
structure MantisKeysOK (o : MantisOps) : Prop where
  enc_k0 : ∀ k, (MantisKey.ofImage (o.setKeyEnc k).2).k0 = k.extractLsb' 0 64
  enc_k0p : ∀ k, (MantisKey.ofImage (o.setKeyEnc k).2).k0prime = mantis_unpack_rotated_block_le (k.extractLsb' 0 64)
  enc_k1 : ∀ k, (MantisKey.ofImage (o.setKeyEnc k).2).k1 = k.extractLsb' 64 64
  enc_tw : ∀ k, (MantisKey.ofImage (o.setKeyEnc k).2).tweak = 0
  dec_k0 : ∀ k, (MantisKey.ofImage (o.setKeyDec k).2).k0 = mantis_unpack_rotated_block_le (k.extractLsb' 0 64)
  dec_k0p : ∀ k, (MantisKey.ofImage (o.setKeyDec k).2).k0prime = k.extractLsb' 0 64
  dec_k1 : ∀ k, (MantisKey.ofImage (o.setKeyDec k).2).k1 = k.extractLsb' 64 64 ^^^ alphaImg
  dec_tw : ∀ k, (MantisKey.ofImage (o.setKeyDec k).2).tweak = 0
  unpack0 : ∀ x, o.unpack0 x = x.extractLsb' 0 64
  swap_k0 : ∀ ks : MantisKey, (MantisKey.ofImage (o.swapModes ks.image)).k0 = ks.k0prime
  swap_k0p : ∀ ks : MantisKey, (MantisKey.ofImage (o.swapModes ks.image)).k0prime = ks.k0
  swap_k1 : ∀ ks : MantisKey, (MantisKey.ofImage (o.swapModes ks.image)).k1 = ks.k1 ^^^ alphaImg
  swap_tw : ∀ ks : MantisKey, (MantisKey.ofImage (o.swapModes ks.image)).tweak = ks.tweak

/-- the specification's key material, read off the image of the 16-byte key -/
theorem encKeys_image (key : Bytes) (hk : key.length = 16) :
    encKeys key =
      { k0 := cells4 ((image 128 key).extractLsb' 0 64),
        k0' := cells4 (mantis_unpack_rotated_block_le ((image 128 key).extractLsb' 0 64)),
        k1 := cells4 ((image 128 key).extractLsb' 64 64) } := by
  have h8 : (key.take 8).length = 8 := by simp [hk]
  have h8' : ((key.drop 8).take 8).length = 8 := by simp [hk]
  rw [encKeys, beWord_bswap _ h8, beWord_bswap _ h8', cellsOfWord_bswap, cellsOfWord_bswap, ← rot_le_cells,
    image_take 64 key 8 (by decide), image_take 64 (key.drop 8) 8 (by decide),
    image_window64 128 key 0 (by decide), image_window64 128 key 8 (by decide), List.drop_zero]

/-- after `mantis_set_key` the schedule holds the specification's key material for its direction -/
theorem keysOf_setKey (o : MantisOps) (K : MantisKeysOK o) (key : Bytes) (hk : key.length = 16) (rounds : Nat) :
    keysOf { MantisKey.ofImage (o.setKeyEnc (image 128 key)).2 with rounds := rounds } = encKeys key ∧
    keysOf { MantisKey.ofImage (o.setKeyDec (image 128 key)).2 with rounds := rounds } = decKeys key := by
  simp only [keysOf, decKeys, encKeys_image key hk, K.enc_k0, K.enc_k0p, K.enc_k1, K.dec_k0, K.dec_k0p, K.dec_k1,
    cells4_xor, alphaImg_cells, and_self]

end SkinnyVerif.Lemmas
