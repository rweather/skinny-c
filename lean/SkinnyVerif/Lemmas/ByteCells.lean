/-
The specification's byte interface agrees with reading cells off little-endian memory images.
-/
import SkinnyVerif.Lemmas.OpsCorrect
import SkinnyVerif.Basic.BytesLemmas

namespace SkinnyVerif.Lemmas
open SkinnyVerif SkinnyVerif.Spec.Skinny

theorem cellsOfBytes8_eq (l : Bytes) : cellsOfBytes8 l = cells8 (image 128 l) := by
  apply Vector.ext; intro i hi
  simp only [cellsOfBytes8, cells8, Vector.getElem_ofFn]
  rw [lane8_image 128 l i (by omega)]

theorem list_ofFn_eq_range_map {α : Type} (n : Nat) (f : Fin n → α) (g : Nat → α) (h : ∀ i : Fin n, f i = g i.val) :
    List.ofFn f = (List.range n).map g := by
  apply List.ext_getElem
  · simp
  · intro i h1 h2
    simp [h ⟨i, by simpa using h1⟩]

theorem bytesOfCells8_cells8 (x : BitVec 128) : bytesOfCells8 (cells8 x) = bytesOf 16 x := by
  rw [bytesOf_lanes]
  simp only [bytesOfCells8, cells8, Vector.toList_ofFn, List.map_ofFn]
  apply list_ofFn_eq_range_map
  intro i; rfl

theorem cellsOfBytes4_eq (l : Bytes) : cellsOfBytes4 l = cells4 (image 64 l) := by
  apply Vector.ext; intro i hi
  nat_cases i 16 <;>
    (simp only [cellsOfBytes4, cells4, Vector.getElem_ofFn]
     rw [lane4_image 64 l _ (by decide)]
     simp)

/-- a byte lane is its two nibble lanes -/
theorem lane8_nibbles {w : Nat} (x : BitVec w) (i : Nat) :
    (lane 8 i x).toNat = (lane 4 (2 * i + 1) x).toNat * 16 + (lane 4 (2 * i) x).toNat := by
  simp only [lane, BitVec.extractLsb'_toNat]
  have h1 : 4 * (2 * i + 1) = 8 * i + 4 := by omega
  have h2 : 4 * (2 * i) = 8 * i := by omega
  rw [h1, h2, Nat.shiftRight_add]
  generalize x.toNat >>> (8 * i) = y
  simp only [Nat.shiftRight_eq_div_pow]
  omega

theorem toList_getD {s : Nat} (c : Cells s) (k : Nat) (hk : k < 16) : c.toList.getD k 0 = c[k] := by
  rw [List.getD_eq_getElem?_getD, List.getElem?_eq_getElem (by simpa using hk)]; rfl

theorem bytesOfCells4_cells4 (x : BitVec 64) : bytesOfCells4 (cells4 x) = bytesOf 8 x := by
  rw [bytesOf_lanes]
  simp only [bytesOfCells4]
  apply List.map_congr_left
  intro i hi
  have hi8 : i < 8 := List.mem_range.mp hi
  rw [lane8_nibbles]
  have e1 : 2 * i ^^^ 1 = 2 * i + 1 := by nat_cases i 8 <;> decide
  have e2 : (2 * i + 1) ^^^ 1 = 2 * i := by nat_cases i 8 <;> decide
  rw [toList_getD _ _ (by omega), toList_getD _ _ (by omega)]
  simp only [cells4, Vector.getElem_ofFn, e1, e2]

theorem cellsOfBytes8_bytesOfCells8 (c : Cells 8) : cellsOfBytes8 (bytesOfCells8 c) = c := by
  apply Vector.ext; intro i hi
  simp only [cellsOfBytes8, bytesOfCells8, Vector.getElem_ofFn]
  rw [List.getD_eq_getElem?_getD, List.getElem?_map, List.getElem?_eq_getElem (by simpa using hi)]
  simp

theorem cellsOfBytes4_bytesOfCells4 (c : Cells 4) : cellsOfBytes4 (bytesOfCells4 c) = c := by
  apply Vector.ext; intro i hi
  simp only [cellsOfBytes4, bytesOfCells4, Vector.getElem_ofFn]
  rw [List.getD_eq_getElem?_getD, List.getElem?_map, List.getElem?_range (by omega : i / 2 < 8)]
  simp only [Option.map_some, Option.getD_some, UInt8.toNat_ofNat']
  rw [toList_getD c _ (by omega), toList_getD c _ (by omega)]
  have hx := (c[2 * (i / 2)]).isLt
  have hy := (c[2 * (i / 2) + 1]).isLt
  apply BitVec.eq_of_toNat_eq
  split
  · have h : c[i] = c[2 * (i / 2)] := by congr 1; omega
    rw [h, BitVec.toNat_ofNat]; omega
  · have h : c[i] = c[2 * (i / 2) + 1] := by congr 1; omega
    rw [h, BitVec.toNat_ofNat]; omega

theorem bytesOfCells8_cellsOfBytes8 (l : Bytes) (hl : l.length = 16) : bytesOfCells8 (cellsOfBytes8 l) = l := by
  rw [cellsOfBytes8_eq, bytesOfCells8_cells8, bytesOf_image 128 16 l hl (by decide)]
theorem bytesOfCells4_cellsOfBytes4 (l : Bytes) (hl : l.length = 8) : bytesOfCells4 (cellsOfBytes4 l) = l := by
  rw [cellsOfBytes4_eq, bytesOfCells4_cells4, bytesOf_image 64 8 l hl (by decide)]

end SkinnyVerif.Lemmas
