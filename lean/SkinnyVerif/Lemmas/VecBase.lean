/-
The vector back ends of SKINNY: blocks and their rows.  A block is the packing of its four rows (`pack4`: 32-bit rows
of Skinny-128, `pack4h`: 16-bit rows of Skinny-64 and Mantis); `laneRows`, `laneRows8`, `laneRowsH` read the rows of
lane `j` out of four row vectors (4 or 8 lanes of 32 bits, 8 lanes of 16 bits).
-/
import SkinnyVerif.Lemmas.Ops64
import SkinnyVerif.Gen.Vec128LeafLanes
import SkinnyVerif.Gen.Vec128Pieces
import SkinnyVerif.Gen.Vec256Pieces
import SkinnyVerif.Gen.Vec64LeafLanes
import SkinnyVerif.Gen.Vec64Pieces

namespace SkinnyVerif.Lemmas
open SkinnyVerif SkinnyVerif.Gen SkinnyVerif.Impl SkinnyVerif.Spec.Skinny

/-- a block from its four 32-bit rows -/
def pack4 (r0 r1 r2 r3 : BitVec 32) : BitVec 128 :=
  r0.setWidth 128 ||| (r1.setWidth 128 <<< 32) ||| (r2.setWidth 128 <<< 64) ||| (r3.setWidth 128 <<< 96)

theorem pack4_byte0 (a b c d : BitVec 32) : BitVec.extractLsb' 0 8 (pack4 a b c d) = BitVec.extractLsb' 0 8 a := by
  windows [pack4]
theorem pack4_byte1 (a b c d : BitVec 32) : BitVec.extractLsb' 8 8 (pack4 a b c d) = BitVec.extractLsb' 8 8 a := by
  windows [pack4]
theorem pack4_byte2 (a b c d : BitVec 32) : BitVec.extractLsb' 16 8 (pack4 a b c d) = BitVec.extractLsb' 16 8 a := by
  windows [pack4]
theorem pack4_byte3 (a b c d : BitVec 32) : BitVec.extractLsb' 24 8 (pack4 a b c d) = BitVec.extractLsb' 24 8 a := by
  windows [pack4]
theorem pack4_byte4 (a b c d : BitVec 32) : BitVec.extractLsb' 32 8 (pack4 a b c d) = BitVec.extractLsb' 0 8 b := by
  windows [pack4]
theorem pack4_byte5 (a b c d : BitVec 32) : BitVec.extractLsb' 40 8 (pack4 a b c d) = BitVec.extractLsb' 8 8 b := by
  windows [pack4]
theorem pack4_byte6 (a b c d : BitVec 32) : BitVec.extractLsb' 48 8 (pack4 a b c d) = BitVec.extractLsb' 16 8 b := by
  windows [pack4]
theorem pack4_byte7 (a b c d : BitVec 32) : BitVec.extractLsb' 56 8 (pack4 a b c d) = BitVec.extractLsb' 24 8 b := by
  windows [pack4]
theorem pack4_byte8 (a b c d : BitVec 32) : BitVec.extractLsb' 64 8 (pack4 a b c d) = BitVec.extractLsb' 0 8 c := by
  windows [pack4]
theorem pack4_byte9 (a b c d : BitVec 32) : BitVec.extractLsb' 72 8 (pack4 a b c d) = BitVec.extractLsb' 8 8 c := by
  windows [pack4]
theorem pack4_byte10 (a b c d : BitVec 32) : BitVec.extractLsb' 80 8 (pack4 a b c d) = BitVec.extractLsb' 16 8 c := by
  windows [pack4]
theorem pack4_byte11 (a b c d : BitVec 32) : BitVec.extractLsb' 88 8 (pack4 a b c d) = BitVec.extractLsb' 24 8 c := by
  windows [pack4]
theorem pack4_byte12 (a b c d : BitVec 32) : BitVec.extractLsb' 96 8 (pack4 a b c d) = BitVec.extractLsb' 0 8 d := by
  windows [pack4]
theorem pack4_byte13 (a b c d : BitVec 32) : BitVec.extractLsb' 104 8 (pack4 a b c d) = BitVec.extractLsb' 8 8 d := by
  windows [pack4]
theorem pack4_byte14 (a b c d : BitVec 32) : BitVec.extractLsb' 112 8 (pack4 a b c d) = BitVec.extractLsb' 16 8 d := by
  windows [pack4]
theorem pack4_byte15 (a b c d : BitVec 32) : BitVec.extractLsb' 120 8 (pack4 a b c d) = BitVec.extractLsb' 24 8 d := by
  windows [pack4]

/-- rows of one lane as a block -/
def packT (t : BitVec 32 × BitVec 32 × BitVec 32 × BitVec 32) : BitVec 128 := pack4 t.1 t.2.1 t.2.2.1 t.2.2.2

/-- the rows of lane `j` of four row vectors -/
def laneRows (rows : BitVec 128 × BitVec 128 × BitVec 128 × BitVec 128) (j : Nat) : BitVec 32 × BitVec 32 × BitVec 32 × BitVec 32 :=
  (lane 32 j rows.1, lane 32 j rows.2.1, lane 32 j rows.2.2.1, lane 32 j rows.2.2.2)

/-- four consecutive rows make the block (`hp` of `PiecesOK.of_transposition`) -/
theorem packT_lanes {w : Nat} (x : BitVec w) (j : Nat) :
    packT (lane 32 (4 * j) x, lane 32 (4 * j + 1) x, lane 32 (4 * j + 2) x, lane 32 (4 * j + 3) x) = lane 128 j x := by
  have h1 := win_join x (32 * (4 * j)) (32 * (4 * j + 1)) 32 32 128 (by omega)
  have h2 := win_join x (32 * (4 * j)) (32 * (4 * j + 2)) 64 32 128 (by omega)
  have h3 := win_join x (32 * (4 * j)) (32 * (4 * j + 3)) 96 32 128 (by omega)
  simp only [packT, pack4, lane, h1, h2, h3, Nat.reduceAdd, BitVec.setWidth_eq]
  congr 1; omega

/-- the rows of lane `j` of four 8-lane row vectors -/
def laneRows8 (rows : BitVec 256 × BitVec 256 × BitVec 256 × BitVec 256) (j : Nat) : BitVec 32 × BitVec 32 × BitVec 32 × BitVec 32 :=
  (lane 32 j rows.1, lane 32 j rows.2.1, lane 32 j rows.2.2.1, lane 32 j rows.2.2.2)

/-- a Skinny-64 block from its four 16-bit rows -/
def pack4h (r0 r1 r2 r3 : BitVec 16) : BitVec 64 :=
  r0.setWidth 64 ||| (r1.setWidth 64 <<< 16) ||| (r2.setWidth 64 <<< 32) ||| (r3.setWidth 64 <<< 48)

abbrev Rows16 := BitVec 16 × BitVec 16 × BitVec 16 × BitVec 16

/-- rows of one lane as a block -/
def packTh (t : Rows16) : BitVec 64 := pack4h t.1 t.2.1 t.2.2.1 t.2.2.2

/-- the rows of lane `j` of four 8-lane row vectors -/
def laneRowsH (rows : BitVec 128 × BitVec 128 × BitVec 128 × BitVec 128) (j : Nat) : Rows16 :=
  (lane 16 j rows.1, lane 16 j rows.2.1, lane 16 j rows.2.2.1, lane 16 j rows.2.2.2)

/-- four consecutive rows make the block (`hp` of `PiecesOK.of_transposition`) -/
theorem packTh_lanes {w : Nat} (x : BitVec w) (j : Nat) :
    packTh (lane 16 (4 * j) x, lane 16 (4 * j + 1) x, lane 16 (4 * j + 2) x, lane 16 (4 * j + 3) x) = lane 64 j x := by
  have h1 := win_join x (16 * (4 * j)) (16 * (4 * j + 1)) 16 16 64 (by omega)
  have h2 := win_join x (16 * (4 * j)) (16 * (4 * j + 2)) 32 16 64 (by omega)
  have h3 := win_join x (16 * (4 * j)) (16 * (4 * j + 3)) 48 16 64 (by omega)
  simp only [packTh, pack4h, lane, h1, h2, h3, Nat.reduceAdd, BitVec.setWidth_eq]
  congr 1; omega

end SkinnyVerif.Lemmas
