/-
The vector back ends of SKINNY: every translated load segment is the transposition of a batch of blocks into row
vectors and every store segment its inverse (`transposeG`, `untransposeG` of `Lemmas/VecBatch.lean`) - the word-wise
segments of the three parallel-ECB files and of the CTR files, and the byte-wise segments (`_u0`) translated under
`SKINNY_UNALIGNED = 0`.
-/
import SkinnyVerif.Lemmas.VecBatch
import SkinnyVerif.Lemmas.VecBase
import SkinnyVerif.Gen.VecCtr128Pieces
import SkinnyVerif.Gen.VecCtr256Pieces
import SkinnyVerif.Gen.VecCtr64Pieces
import SkinnyVerif.Gen.VecU0Pieces

namespace SkinnyVerif.Lemmas
open SkinnyVerif SkinnyVerif.Gen

/-! The translated pieces of one kind, for the statements that hold of each of them by the same script: the load
segments of the two functions of a parallel-ECB file; their store segments and that of the batch function of the
CTR file with the same cipher and vectors. -/
inductive Dir | enc | dec
inductive Sto | enc | dec | ctr

def v128pLoad : Dir → BitVec 512 → Rows 128
  | .enc => v128p_enc_load
  | .dec => v128p_dec_load

def v128pStore : Sto → BitVec 128 → BitVec 128 → BitVec 128 → BitVec 128 → BitVec 512
  | .enc => v128p_enc_store
  | .dec => v128p_dec_store
  | .ctr => v128c_enc_store

theorem v128p_load_eq (d : Dir) (x : BitVec 512) : v128pLoad d x = transposeG 32 4 x := by
  cases d <;> transposition [v128pLoad]

theorem v128p_store_eq (s : Sto) (r0 r1 r2 r3 : BitVec 128) : v128pStore s r0 r1 r2 r3 = untransposeG 32 4 (r0, r1, r2, r3) := by
  cases s <;> transposition [v128pStore]


def v256pLoad : Dir → BitVec 1024 → Rows 256
  | .enc => v256p_enc_load
  | .dec => v256p_dec_load

def v256pStore : Sto → BitVec 256 → BitVec 256 → BitVec 256 → BitVec 256 → BitVec 1024
  | .enc => v256p_enc_store
  | .dec => v256p_dec_store
  | .ctr => v256c_enc_store

theorem v256p_load_eq (d : Dir) (x : BitVec 1024) : v256pLoad d x = transposeG 32 8 x := by
  cases d <;> transposition [v256pLoad]

theorem v256p_store_eq (s : Sto) (r0 r1 r2 r3 : BitVec 256) : v256pStore s r0 r1 r2 r3 = untransposeG 32 8 (r0, r1, r2, r3) := by
  cases s <;> transposition [v256pStore]


def v64pLoad : Dir → BitVec 512 → Rows 128
  | .enc => v64p_enc_load
  | .dec => v64p_dec_load

def v64pStore : Sto → BitVec 128 → BitVec 128 → BitVec 128 → BitVec 128 → BitVec 512
  | .enc => v64p_enc_store
  | .dec => v64p_dec_store
  | .ctr => v64c_enc_store

theorem v64p_load_eq (d : Dir) (x : BitVec 512) : v64pLoad d x = transposeG 16 8 x := by
  cases d <;> transposition [v64pLoad]

theorem v64p_store_eq (s : Sto) (r0 r1 r2 r3 : BitVec 128) : v64pStore s r0 r1 r2 r3 = untransposeG 16 8 (r0, r1, r2, r3) := by
  cases s <;> transposition [v64pStore]


def v128pLoadU0 : Dir → BitVec 512 → Rows 128
  | .enc => v128p_enc_load_u0
  | .dec => v128p_dec_load_u0

def v128pStoreU0 : Sto → BitVec 128 → BitVec 128 → BitVec 128 → BitVec 128 → BitVec 512
  | .enc => v128p_enc_store_u0
  | .dec => v128p_dec_store_u0
  | .ctr => v128c_enc_store_u0

def v256pLoadU0 : Dir → BitVec 1024 → Rows 256
  | .enc => v256p_enc_load_u0
  | .dec => v256p_dec_load_u0

def v256pStoreU0 : Sto → BitVec 256 → BitVec 256 → BitVec 256 → BitVec 256 → BitVec 1024
  | .enc => v256p_enc_store_u0
  | .dec => v256p_dec_store_u0
  | .ctr => v256c_enc_store_u0

def v64pLoadU0 : Dir → BitVec 512 → Rows 128
  | .enc => v64p_enc_load_u0
  | .dec => v64p_dec_load_u0

def v64pStoreU0 : Dir → BitVec 128 → BitVec 128 → BitVec 128 → BitVec 128 → BitVec 512
  | .enc => v64p_enc_store_u0
  | .dec => v64p_dec_store_u0

theorem v128p_load_u0_eq (d : Dir) (x : BitVec 512) : v128pLoadU0 d x = transposeG 32 4 x := by
  cases d <;> transposition [v128pLoadU0]

theorem v128p_store_u0_eq (s : Sto) (r0 r1 r2 r3 : BitVec 128) : v128pStoreU0 s r0 r1 r2 r3 = untransposeG 32 4 (r0, r1, r2, r3) := by
  cases s <;> transposition [v128pStoreU0]

theorem v256p_load_u0_eq (d : Dir) (x : BitVec 1024) : v256pLoadU0 d x = transposeG 32 8 x := by
  cases d <;> transposition [v256pLoadU0]

set_option maxRecDepth 8000 in
theorem v256p_store_u0_eq (s : Sto) (r0 r1 r2 r3 : BitVec 256) : v256pStoreU0 s r0 r1 r2 r3 = untransposeG 32 8 (r0, r1, r2, r3) := by
  cases s <;> transposition [v256pStoreU0]

theorem v64p_load_u0_eq (d : Dir) (x : BitVec 512) : v64pLoadU0 d x = transposeG 16 8 x := by
  cases d <;> transposition [v64pLoadU0]

theorem v64p_store_u0_eq (d : Dir) (r0 r1 r2 r3 : BitVec 128) : v64pStoreU0 d r0 r1 r2 r3 = untransposeG 16 8 (r0, r1, r2, r3) := by
  cases d <;> transposition [v64pStoreU0]

end SkinnyVerif.Lemmas
