/-
MANTIS leaf lemmas: the row-sliced C helpers (tweak update `h` and inverse, cell permutation
`P` and inverse, MixColumns, bit-sliced Sb0) are the specification's operations on cells
(cell `i` = nibble `i xor 1` of the 8-byte memory image, as for SKINNY-64).
-/
import SkinnyVerif.Lemmas.OpsCorrect
import SkinnyVerif.Spec.Mantis
import SkinnyVerif.Gen.MantisLeafLanes

namespace SkinnyVerif.Lemmas
open SkinnyVerif SkinnyVerif.Gen SkinnyVerif.Spec.Skinny SkinnyVerif.Spec.Mantis


theorem update_tweak_cells (x : BitVec 64) : cells4 (mantis_update_tweak x) = permute hPerm (cells4 x) := by
  rw [permute_h]; cellwise cells4_get [mantis_update_tweak]

theorem update_tweak_inverse_cells (x : BitVec 64) : cells4 (mantis_update_tweak_inverse x) = permute hInv (cells4 x) := by
  rw [permute_hInv]; cellwise cells4_get [mantis_update_tweak_inverse]

theorem shift_rows_cells (x : BitVec 64) : cells4 (mantis_shift_rows x) = permute PPerm (cells4 x) := by
  rw [permute_MP]; cellwise cells4_get [mantis_shift_rows]

theorem shift_rows_inverse_cells (x : BitVec 64) : cells4 (mantis_shift_rows_inverse x) = permute PInv (cells4 x) := by
  rw [permute_MPinv]; cellwise cells4_get [mantis_shift_rows_inverse]

/-- MixColumns on nibble windows: a cell becomes the sum of the other three cells of its column, which
lie 16, 32 and 48 bits further on, cyclically.  With this the pieces need not unfold the leaf. -/
theorem mix_columns_win (x : BitVec 64) (p : Nat) (hp : p % 4 = 0) (hpn : p + 4 ≤ 64) :
    (mantis_mix_columns x).extractLsb' p 4 =
      x.extractLsb' ((p + 16) % 64) 4 ^^^ x.extractLsb' ((p + 32) % 64) 4 ^^^ x.extractLsb' ((p + 48) % 64) 4 := by
  obtain ⟨i, rfl⟩ : ∃ i, p = 4 * i := ⟨p / 4, by omega⟩
  have hi : i < 16 := by omega
  nat_cases i 16 <;> windows [mantis_mix_columns] <;> ac_rfl

theorem mix_columns_cells (x : BitVec 64) : cells4 (mantis_mix_columns x) = mulColumns MM (cells4 x) := by
  rw [mulColumns_MM]; cellwise cells4_get [mix_columns_win]

theorem sbox_64_cells (x : BitVec 64) : cells4 (mantis_sbox_64 x) = subCells Sb0 (cells4 x) := by
  rw [cells_eta (subCells Sb0 (cells4 x))]; cellwise cells4_get [subCells_get]

theorem cells4_xor (a b : BitVec 64) : cells4 (a ^^^ b) = xorCells (cells4 a) (cells4 b) := by
  rw [xorCells_lit]; cellwise cells4_get

end SkinnyVerif.Lemmas
