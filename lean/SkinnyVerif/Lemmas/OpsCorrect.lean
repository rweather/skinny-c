/-
What the refinement proofs need to know about the generated pieces of one translation of the scalar
SKINNY code (`OpsCorrectG`), stated on cells for both block sizes at once: the abstraction from memory
images to the specification's cells (`cells8`, `cells4`, `top8`, `top4`), the round-constant step and
the schedule-shaped masks the statements use, and the tactic `cellwise` that proves such a statement.
Proved for the four configurations of the C library and for the Arduino port in `Lemmas/Ops128.lean`,
`Lemmas/Ops64.lean`.
-/
import SkinnyVerif.Basic.Windows
import SkinnyVerif.Spec.Skinny
import SkinnyVerif.Spec.Mantis
import SkinnyVerif.Gen.Skinny128LeafLanes
import SkinnyVerif.Gen.Skinny64LeafLanes
import SkinnyVerif.Gen.MantisLeafLanes
import SkinnyVerif.Lemmas.Tables
import SkinnyVerif.Lemmas.SpecForms
import SkinnyVerif.Impl.Ops

namespace SkinnyVerif.Lemmas
open SkinnyVerif SkinnyVerif.Gen SkinnyVerif.Spec.Skinny

/-- SKINNY-128: cell `i` of a 16-byte image is byte `i` -/
def cells8 (x : BitVec 128) : Cells 8 := Vector.ofFn fun i => lane 8 i.val x
/-- SKINNY-64 / MANTIS: byte `i` of the 8-byte image holds cell `2i` in its high nibble, i.e.
cell `i` is nibble `i xor 1` -/
def cells4 (x : BitVec 64) : Cells 4 := Vector.ofFn fun i => lane 4 (i.val ^^^ 1) x

/-- the half-block schedule entry as a state-shaped mask (upper two rows) -/
def top8 (sk : BitVec 64) : Cells 8 := Vector.ofFn fun i => if i.val < 8 then lane 8 i.val sk else 0
def top4 (sk : BitVec 32) : Cells 4 := Vector.ofFn fun i => if i.val < 8 then lane 4 (i.val ^^^ 1) sk else 0

/-- the constant `c2 = 2` in cell 8, which the C code xors in the round function -/
def c2cells (s : Nat) : Cells s := Vector.ofFn fun i => if i.val = 8 then 2 else 0

theorem cells8_get (x : BitVec 128) (i : Nat) (hi : i < 16) : (cells8 x)[i] = lane 8 i x := by simp [cells8]
theorem cells4_get (x : BitVec 64) (i : Nat) (hi : i < 16) : (cells4 x)[i] = lane 4 (i ^^^ 1) x := by simp [cells4]
theorem top8_get (x : BitVec 64) (i : Nat) (hi : i < 16) : (top8 x)[i] = if i < 8 then lane 8 i x else 0 := by simp [top8]
theorem top4_get (x : BitVec 32) (i : Nat) (hi : i < 16) : (top4 x)[i] = if i < 8 then lane 4 (i ^^^ 1) x else 0 := by simp [top4]
theorem c2cells_get (s i : Nat) (hi : i < 16) : (c2cells s)[i] = if i = 8 then 2 else 0 := by simp [c2cells]

theorem cells8_injective (a b : BitVec 128) (h : cells8 a = cells8 b) : a = b := by
  apply eq_of_lanes 8 16 (by decide) (by decide)
  intro i hi
  have := congrArg (fun v => v[i]'hi) h
  simpa [cells8] using this

/-- simp set: see through calls to lane-structured leaves, bit by bit -/
macro "leaf_simps" : term => `(term| True)

open SkinnyVerif.Impl

/-- the C expression that steps the 6-bit round-constant LFSR, on the `uint8_t` it is kept in -/
def rcStep8 (rc : BitVec 8) : BitVec 8 :=
  (((rc <<< 1) ^^^ ((rc >>> 5) &&& 1)) ^^^ ((rc >>> 4) &&& 1) ^^^ 1) &&& 0x3f

theorem rcStep8_spec : ∀ rc : BitVec 8, rc < 64 →
    (rcStep8 rc).setWidth 6 = rcNext (rc.setWidth 6) ∧ rcStep8 rc < 64 := by
  have h := forall_bv_of_all (w := 8)
    (fun rc => decide (rc < 64 → (rcStep8 rc).setWidth 6 = rcNext (rc.setWidth 6) ∧ rcStep8 rc < 64)) (by decide +kernel)
  intro rc hrc
  have := h rc
  simp only [decide_eq_true_eq] at this
  exact this hrc

/-- constants `c0`, `c1` of AddConstants and the tweak-domain bit as a state-shaped mask
(`c2` is added by the round function, see `c2cells`) -/
def constTop (s : Nat) (rc : BitVec 8) (dom : BitVec s) : Cells s :=
  Vector.ofFn fun i =>
    if i.val = 0 then (rc &&& 0xf).setWidth s
    else if i.val = 4 then (rc >>> 4).setWidth s
    else if i.val = 2 then dom
    else 0

theorem constTop_get (s : Nat) (rc : BitVec 8) (dom : BitVec s) (i : Nat) (hi : i < 16) :
    (constTop s rc dom)[i] = if i = 0 then (rc &&& 0xf).setWidth s else if i = 4 then (rc >>> 4).setWidth s else if i = 2 then dom else 0 := by
  simp [constTop]

/-- A translated piece against the literal form of its reference, all cells at once: `cellwise get [h, …]`
reads the cells of the left side through the access lemma `get` (`cells8_get`, `top4_get`, …), computes both
sides as windows of the inputs (`windows`, also rewriting with `h, …`), and compares what is left cell by cell
up to the order of the xors. -/
syntax "cellwise " ident (" [" Lean.Parser.Tactic.simpLemma,* "]")? : tactic
macro_rules
  | `(tactic| cellwise $g:ident) => `(tactic| cellwise $g [])
  | `(tactic| cellwise $g:ident [$ls,*]) => `(tactic|
    (apply cells_eq_list _ _ ($g _)
     windows [List.range, List.range.loop, List.map, List.cons.injEq, and_true, true_and,
       cells8_get, cells4_get, top8_get, top4_get, c2cells_get, xorCells_get, topRows_get, constTop_get, mapTop_get,
       ops8, ops4, rcStep8, Nat.reduceXor, reduceIte, $ls,*] <;> and_intros <;> ac_rfl))


/-- how images of one block size are read as cells -/
structure Abs (b h s : Nat) where
  cells : BitVec b → Cells s
  top : BitVec h → Cells s
  co : CellOps s

def abs128 : Abs 128 64 8 := ⟨cells8, top8, ops8⟩
def abs64 : Abs 64 32 4 := ⟨cells4, top4, ops4⟩

/-- round key on cells for a schedule entry -/
def Abs.rk {b h s : Nat} (A : Abs b h s) (sk : BitVec h) : Cells s := xorCells (A.top sk) (c2cells s)

structure OpsCorrectG {b h s : Nat} (A : Abs b h s) (o : SkinnyOps b h) : Prop where
  encLoad : ∀ x, o.encLoad x = x
  encStore : ∀ x, o.encStore x = x
  decLoad : ∀ x, o.decLoad x = x
  decStore : ∀ x, o.decStore x = x
  encRound : ∀ st sk, A.cells (o.encRound st sk) = round A.co (A.rk sk) (A.cells st)
  decRound : ∀ st sk, A.cells (o.decRound st sk) = roundInv A.co (A.rk sk) (A.cells st)
  tk1Load : ∀ k, o.tk1Load k = (k, 0)
  tk1Step0_e : ∀ tk rc, A.top (o.tk1Step0 tk rc).1 = xorCells (topRows (A.cells tk)) (constTop s (rcStep8 rc) 0)
  tk1Step0_tk : ∀ tk rc, A.cells (o.tk1Step0 tk rc).2.1 = permute PT (A.cells tk)
  tk1Step0_rc : ∀ tk rc, (o.tk1Step0 tk rc).2.2 = rcStep8 rc
  tk1Step1_e : ∀ tk rc, A.top (o.tk1Step1 tk rc).1 = xorCells (topRows (A.cells tk)) (constTop s (rcStep8 rc) 2)
  tk1Step1_tk : ∀ tk rc, A.cells (o.tk1Step1 tk rc).2.1 = permute PT (A.cells tk)
  tk1Step1_rc : ∀ tk rc, (o.tk1Step1 tk rc).2.2 = rcStep8 rc
  xorTk1Load : ∀ k, o.xorTk1Load k = k
  xorTk1Step_e : ∀ e tk, A.top (o.xorTk1Step e tk).1 = xorCells (A.top e) (topRows (A.cells tk))
  xorTk1Step_tk : ∀ e tk, A.cells (o.xorTk1Step e tk).2 = permute PT (A.cells tk)
  tk2Step_e : ∀ e tk, A.top (o.tk2Step e tk).1 = xorCells (A.top e) (topRows (A.cells tk))
  tk2Step_tk : ∀ e tk, A.cells (o.tk2Step e tk).2 = mapTop A.co.lfsr2 (permute PT (A.cells tk))
  tk3Step_e : ∀ e tk, A.top (o.tk3Step e tk).1 = xorCells (A.top e) (topRows (A.cells tk))
  tk3Step_tk : ∀ e tk, A.cells (o.tk3Step e tk).2 = mapTop A.co.lfsr3 (permute PT (A.cells tk))
  tk2Load : ∀ k junk key, 1 ≤ k → 8 * k ≤ b → o.tk2Load k junk key = key &&& BitVec.ofNat b (2 ^ (8 * k) - 1)
  tk3Load : ∀ k junk key, 1 ≤ k → 8 * k ≤ b → o.tk3Load k junk key = key &&& BitVec.ofNat b (2 ^ (8 * k) - 1)

/-- the translations of the scalar SKINNY code: the C library in its four configurations and the
portable path of the Arduino port -/
inductive Src | c (t : Tag) | arduino

end SkinnyVerif.Lemmas
