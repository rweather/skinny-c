/-
The lane versions of the generated S-boxes and LFSRs are the specification's cell functions
(function equalities under `win`, so that `windows` rewrites them wherever they occur).
Each statement quantifies over a complete finite domain (16 or 256 values) and is decided by
kernel evaluation.
-/
import SkinnyVerif.Basic.Finite
import SkinnyVerif.Basic.Attr
import SkinnyVerif.Spec.Skinny
import SkinnyVerif.Gen.Skinny128Leaf
import SkinnyVerif.Gen.Skinny64Leaf
import SkinnyVerif.Gen.Arduino128Leaf
import SkinnyVerif.Gen.Arduino64Leaf
import SkinnyVerif.Spec.Mantis
import SkinnyVerif.Gen.MantisLeaf
import SkinnyVerif.Gen.ArduinoMantisLeaf
import SkinnyVerif.Gen.VecMantisLeaf
import SkinnyVerif.Gen.VecMantisCtrLeaf
import SkinnyVerif.Gen.Vec128Leaf
import SkinnyVerif.Gen.Vec256Leaf
import SkinnyVerif.Gen.Vec64Leaf
import SkinnyVerif.Gen.VecCtr128Leaf
import SkinnyVerif.Gen.VecCtr256Leaf
import SkinnyVerif.Gen.VecCtr64Leaf

namespace SkinnyVerif.Lemmas
open SkinnyVerif SkinnyVerif.Gen SkinnyVerif.Spec.Skinny

theorem S8inv_S8 : ∀ v : BitVec 8, S8inv (S8 v) = v := forall_bv_eq _ _ (by decide +kernel)
theorem S8_S8inv : ∀ v : BitVec 8, S8 (S8inv v) = v := forall_bv_eq _ _ (by decide +kernel)

@[win] theorem sbox128_64_lane : skinny128_sbox_64_lane = S8 := funext (forall_bv_eq _ _ (by decide +kernel))
@[win] theorem sbox128_32_lane : skinny128_sbox_32_lane = S8 := funext (forall_bv_eq _ _ (by decide +kernel))
@[win] theorem inv_sbox128_64_lane : skinny128_inv_sbox_64_lane = S8inv := funext (forall_bv_eq _ _ (by decide +kernel))
@[win] theorem inv_sbox128_32_lane : skinny128_inv_sbox_32_lane = S8inv := funext (forall_bv_eq _ _ (by decide +kernel))
@[win] theorem lfsr2_128_64_lane : skinny128_LFSR2_64_lane = lfsr2_8 := funext (forall_bv_eq _ _ (by decide +kernel))
@[win] theorem lfsr2_128_32_lane : skinny128_LFSR2_32_lane = lfsr2_8 := funext (forall_bv_eq _ _ (by decide +kernel))
@[win] theorem lfsr3_128_64_lane : skinny128_LFSR3_64_lane = lfsr3_8 := funext (forall_bv_eq _ _ (by decide +kernel))
@[win] theorem lfsr3_128_32_lane : skinny128_LFSR3_32_lane = lfsr3_8 := funext (forall_bv_eq _ _ (by decide +kernel))

@[win] theorem sbox64_64_lane : skinny64_sbox_64_lane = S4 := funext (forall_bv_eq _ _ (by decide +kernel))
@[win] theorem sbox64_32_lane : skinny64_sbox_32_lane = S4 := funext (forall_bv_eq _ _ (by decide +kernel))
@[win] theorem inv_sbox64_64_lane : skinny64_inv_sbox_64_lane = S4inv := funext (forall_bv_eq _ _ (by decide +kernel))
@[win] theorem inv_sbox64_32_lane : skinny64_inv_sbox_32_lane = S4inv := funext (forall_bv_eq _ _ (by decide +kernel))
@[win] theorem lfsr2_64_lane : skinny64_LFSR2_lane = lfsr2_4 := funext (forall_bv_eq _ _ (by decide +kernel))
@[win] theorem lfsr3_64_lane : skinny64_LFSR3_lane = lfsr3_4 := funext (forall_bv_eq _ _ (by decide +kernel))

@[win] theorem ard_sbox_lane : ard128_sbox_lane = S8 := funext (forall_bv_eq _ _ (by decide +kernel))
@[win] theorem ard_inv_sbox_lane : ard128_inv_sbox_lane = S8inv := funext (forall_bv_eq _ _ (by decide +kernel))
@[win] theorem ard_lfsr2_lane : ard128_LFSR2_lane = lfsr2_8 := funext (forall_bv_eq _ _ (by decide +kernel))
@[win] theorem ard_lfsr3_lane : ard128_LFSR3_lane = lfsr3_8 := funext (forall_bv_eq _ _ (by decide +kernel))

@[win] theorem ard64_sbox_lane' : ard64_sbox_lane = S4 := funext (forall_bv_eq _ _ (by decide +kernel))
@[win] theorem ard64_inv_sbox_lane' : ard64_inv_sbox_lane = S4inv := funext (forall_bv_eq _ _ (by decide +kernel))
@[win] theorem ard64_lfsr2_lane' : ard64_LFSR2_lane = lfsr2_4 := funext (forall_bv_eq _ _ (by decide +kernel))
@[win] theorem ard64_lfsr3_lane' : ard64_LFSR3_lane = lfsr3_4 := funext (forall_bv_eq _ _ (by decide +kernel))

@[win] theorem msbox_64_lane : mantis_sbox_64_lane = Spec.Mantis.Sb0 := funext (forall_bv_eq _ _ (by decide +kernel))
@[win] theorem msbox_32_lane : mantis_sbox_32_lane = Spec.Mantis.Sb0 := funext (forall_bv_eq _ _ (by decide +kernel))
@[win] theorem ardm_sbox_lane' : ardm_sbox_lane = Spec.Mantis.Sb0 := funext (forall_bv_eq _ _ (by decide +kernel))
@[win] theorem vmp_sbox_lane' : vmp_sbox_lane = Spec.Mantis.Sb0 := funext (forall_bv_eq _ _ (by decide +kernel))
@[win] theorem vmc_sbox_lane' : vmc_sbox_lane = Spec.Mantis.Sb0 := funext (forall_bv_eq _ _ (by decide +kernel))
/-! the S-boxes of the vector files: `skinny128_sbox_four`, `skinny128_inv_sbox_four` (on one row) of the two
Skinny-128 parallel-ECB files, `skinny128_sbox_four` of the two CTR files, `skinny64_sbox`, `skinny64_inv_sbox` of
`skinny64-parallel-vec128.c`, `skinny64_sbox` of `skinny64-ctr-vec128.c` -/
@[win] theorem v128p_sbox_lane' : v128p_sbox_lane = S8 := funext (forall_bv_eq _ _ (by decide +kernel))
@[win] theorem v128p_inv_sbox_lane' : v128p_inv_sbox_lane = S8inv := funext (forall_bv_eq _ _ (by decide +kernel))
@[win] theorem v256p_sbox_lane' : v256p_sbox_lane = S8 := funext (forall_bv_eq _ _ (by decide +kernel))
@[win] theorem v256p_inv_sbox_lane' : v256p_inv_sbox_lane = S8inv := funext (forall_bv_eq _ _ (by decide +kernel))
@[win] theorem v128c_sbox_lane' : v128c_sbox_lane = S8 := funext (forall_bv_eq _ _ (by decide +kernel))
@[win] theorem v256c_sbox_lane' : v256c_sbox_lane = S8 := funext (forall_bv_eq _ _ (by decide +kernel))
@[win] theorem v64p_sbox_lane' : v64p_sbox_lane = S4 := funext (forall_bv_eq _ _ (by decide +kernel))
@[win] theorem v64p_inv_sbox_lane' : v64p_inv_sbox_lane = S4inv := funext (forall_bv_eq _ _ (by decide +kernel))
@[win] theorem v64c_sbox_lane' : v64c_sbox_lane = S4 := funext (forall_bv_eq _ _ (by decide +kernel))

end SkinnyVerif.Lemmas
