/-
The scalar translations of MANTIS - `src/mantis-cipher.c` in its four build configurations (64le, 32le, 64be,
32be) and the portable path of `arduino/libraries/Skinny/Mantis8.cpp` - satisfy what the refinement needs:
every piece of the block function equals its reference form as a 64-bit image (`srcM_pieces`), the
key-handling functions produce the fields they should (`srcM_keys`), the round-constant table is the
specification's (`srcM_rc`).  One statement per piece over all five translations; a piece is unfolded
down to its leaf calls and compared with the reference nibble by nibble (images that are loaded or
stored: byte by byte) as windows of its inputs.

The class `Mantis8` keeps k0, k0', k1, tweak in a 32-byte struct, the first 32 bytes of the C library's
36-byte `MantisKey_t` image; the round count is fixed at 8.  It has no per-call-tweak entry point: those
fields of its table are filled with the reference forms themselves.
-/
import SkinnyVerif.Lemmas.MantisKeys
import SkinnyVerif.Lemmas.Ops128
import SkinnyVerif.Gen.ArduinoMantisLeafLanes
import SkinnyVerif.Gen.ArduinoMantisPieces
import SkinnyVerif.Gen.ArduinoMantisKey

namespace SkinnyVerif.Lemmas
open SkinnyVerif SkinnyVerif.Gen SkinnyVerif.Impl SkinnyVerif.Spec.Skinny SkinnyVerif.Spec.Mantis

def opsArdM : MantisOps :=
  { pre := fun input ks => ardm_pre input (ks.setWidth 256), fwd := ardm_fwd, mid := ardm_mid, bwd := ardm_bwd,
    post := fun st tw k1 ks => ardm_post st tw k1 (ks.setWidth 256),
    preT := refPre, fwdT := refFwd, midT := refMid, bwdT := refBwd, postT := refPost,
    rc := ardm_rc,
    swapModes := fun ks => (ardm_swap_modes (ks.setWidth 256)).setWidth 288,
    unpack0 := fun x => ((ardm_set_tweak (x.setWidth 64) 0).2).extractLsb' 192 64,
    unpack8 := fun x => x.extractLsb' 64 64,
    unpackRot := ardm_unpack_rotated_block,
    setKeyEnc := fun k => (1, (ardm_set_key k).2.setWidth 288),
    setKeyDec := fun k => (1, (ardm_swap_modes (ardm_set_key k).2).setWidth 288) }

def srcM : Src → MantisOps
  | .c t => opsMantis t
  | .arduino => opsArdM

/-- two 64-bit images nibble by nibble (`img_bytes`: byte by byte) as windows of their inputs; the reference forms and
the lemmas given are unfolded -/
syntax "img_nibbles" (" [" Lean.Parser.Tactic.simpLemma,* "]")? : tactic
macro_rules
  | `(tactic| img_nibbles) => `(tactic| img_nibbles [])
  | `(tactic| img_nibbles [$ls,*]) => `(tactic| lanewise 4 16 [refPre, refFwd, refMid, refBwd, refPost, alphaImg, $ls,*])

syntax "img_bytes" (" [" Lean.Parser.Tactic.simpLemma,* "]")? : tactic
macro_rules
  | `(tactic| img_bytes) => `(tactic| img_bytes [])
  | `(tactic| img_bytes [$ls,*]) => `(tactic| lanewise 8 8 [refPre, refFwd, refMid, refBwd, refPost, alphaImg, $ls,*])

set_option maxRecDepth 8000

/-! ## the leaves of the port are those of the library -/

theorem ardm_update_tweak_eq : ardm_update_tweak = mantis_update_tweak := by
  funext x; img_nibbles [ardm_update_tweak, mantis_update_tweak]
theorem ardm_update_tweak_inverse_eq : ardm_update_tweak_inverse = mantis_update_tweak_inverse := by
  funext x; img_nibbles [ardm_update_tweak_inverse, mantis_update_tweak_inverse]
theorem ardm_shift_rows_eq : ardm_shift_rows = mantis_shift_rows := by
  funext x; img_nibbles [ardm_shift_rows, mantis_shift_rows]
theorem ardm_shift_rows_inverse_eq : ardm_shift_rows_inverse = mantis_shift_rows_inverse := by
  funext x; img_nibbles [ardm_shift_rows_inverse, mantis_shift_rows_inverse]
theorem ardm_mix_columns_eq : ardm_mix_columns = mantis_mix_columns := by
  funext x; img_nibbles [ardm_mix_columns, mantis_mix_columns]
theorem ardm_rot_eq : ardm_unpack_rotated_block = mantis_unpack_rotated_block_le := by
  funext x; img_bytes [ardm_unpack_rotated_block, mantis_unpack_rotated_block_le]
theorem rot_be_eq : mantis_unpack_rotated_block_be = mantis_unpack_rotated_block_le := by
  funext x; img_bytes [mantis_unpack_rotated_block_be, mantis_unpack_rotated_block_le]

/-! ## the pieces of the block function

The table is unfolded first: under `windows` every field of `opsArdM` would be computed.  The leaf
calls stay folded - a piece calls them on the arguments its reference calls them on - but for two
places: the last two calls of a forward round, which are stripped off both sides (the pieces unfolded
and the port's leaves rewritten to the library's first, so that they are the same calls), and the
MixColumns between the two S-box layers of the middle section, which `mix_columns_win` sees through. -/

section
variable (T : Src)

theorem srcM_pre : ∀ input ks, (srcM T).pre input ks = refPre input ks (ks.extractLsb' 192 64) := by
  intro input ks
  rcases T with ⟨_ | _ | _ | _⟩ | _ <;> dsimp only [srcM, opsMantis, opsArdM] <;> refine Prod.ext ?_ (Prod.ext ?_ ?_) <;> img_bytes

theorem srcM_preT : ∀ input ks tw, (srcM T).preT input ks tw = refPre input ks tw := by
  intro input ks tw
  rcases T with ⟨_ | _ | _ | _⟩ | _ <;> dsimp only [srcM, opsMantis, opsArdM] <;> refine Prod.ext ?_ (Prod.ext ?_ ?_) <;> img_bytes

theorem srcM_fwd : ∀ st tw k1 r, (srcM T).fwd st tw k1 r = refFwd st tw k1 r := by
  intro st tw k1 r
  rcases T with ⟨_ | _ | _ | _⟩ | _ <;> dsimp only [srcM, opsMantis, opsArdM] <;>
    simp only [gen_unfold, refFwd, ardm_update_tweak_eq, ardm_shift_rows_eq, ardm_mix_columns_eq] <;>
    refine Prod.ext (congrArg (fun x => mantis_mix_columns (mantis_shift_rows x)) ?_) ?_ <;> img_nibbles

theorem srcM_fwdT : ∀ st tw k1 r, (srcM T).fwdT st tw k1 r = refFwd st tw k1 r := by
  intro st tw k1 r
  rcases T with ⟨_ | _ | _ | _⟩ | _ <;> dsimp only [srcM, opsMantis, opsArdM] <;> simp only [gen_unfold, refFwd] <;>
    refine Prod.ext (congrArg (fun x => mantis_mix_columns (mantis_shift_rows x)) ?_) ?_ <;> img_nibbles

theorem srcM_mid : ∀ st k1, (srcM T).mid st k1 = refMid st k1 := by
  intro st k1
  rcases T with ⟨_ | _ | _ | _⟩ | _ <;> dsimp only [srcM, opsMantis, opsArdM] <;> refine Prod.ext ?_ ?_ <;>
    img_nibbles [mix_columns_win, ardm_mix_columns_eq]

theorem srcM_midT : ∀ st k1, (srcM T).midT st k1 = refMid st k1 := by
  intro st k1
  rcases T with ⟨_ | _ | _ | _⟩ | _ <;> dsimp only [srcM, opsMantis, opsArdM] <;> refine Prod.ext ?_ ?_ <;> img_nibbles [mix_columns_win]

theorem srcM_bwd : ∀ st tw k1 r, (srcM T).bwd st tw k1 r = refBwd st tw k1 r := by
  intro st tw k1 r
  rcases T with ⟨_ | _ | _ | _⟩ | _ <;> dsimp only [srcM, opsMantis, opsArdM] <;> refine Prod.ext ?_ ?_ <;>
    img_nibbles [ardm_update_tweak_inverse_eq, ardm_shift_rows_inverse_eq, ardm_mix_columns_eq]

theorem srcM_bwdT : ∀ st tw k1 r, (srcM T).bwdT st tw k1 r = refBwd st tw k1 r := by
  intro st tw k1 r
  rcases T with ⟨_ | _ | _ | _⟩ | _ <;> dsimp only [srcM, opsMantis, opsArdM] <;> refine Prod.ext ?_ ?_ <;> img_nibbles

theorem srcM_post : ∀ st tw k1 ks, (srcM T).post st tw k1 ks = refPost st tw k1 ks := by
  intro st tw k1 ks
  rcases T with ⟨_ | _ | _ | _⟩ | _ <;> dsimp only [srcM, opsMantis, opsArdM] <;> img_bytes

theorem srcM_postT : ∀ st tw k1 ks, (srcM T).postT st tw k1 ks = refPost st tw k1 ks := by
  intro st tw k1 ks
  rcases T with ⟨_ | _ | _ | _⟩ | _ <;> dsimp only [srcM, opsMantis, opsArdM] <;> img_bytes

theorem srcM_pieces : MantisPiecesOK (srcM T) :=
  ⟨srcM_pre T, srcM_fwd T, srcM_mid T, srcM_bwd T, srcM_post T, srcM_preT T, srcM_fwdT T, srcM_midT T, srcM_bwdT T, srcM_postT T⟩

/-! ## the key-handling functions

One statement per function: the four fields it leaves in the schedule (the round count is set by the
caller).  A field is first cut out of the 36-byte image as a 64-bit window, which disposes of the other
fields at once; what is left is compared byte by byte. -/

syntax "keyfield" : tactic
macro_rules
  | `(tactic| keyfield) => `(tactic|
    (windows [MantisKey.ofImage, MantisKey.image, rot_be_eq, ardm_rot_eq,
       mantis_set_key_enc_64le, mantis_set_key_dec_64le, mantis_set_key_enc_32le, mantis_set_key_dec_32le,
       mantis_set_key_enc_64be, mantis_set_key_dec_64be, mantis_set_key_enc_32be, mantis_set_key_dec_32be,
       mantis_swap_modes_64le, mantis_swap_modes_32le, mantis_swap_modes_64be, mantis_swap_modes_32be]
     try img_bytes [mantis_unpack_block_le_0, mantis_unpack_block_le_8, mantis_unpack_block_be_0, mantis_unpack_block_be_8]))

theorem srcM_setKeyEnc (k : BitVec 128) : { MantisKey.ofImage ((srcM T).setKeyEnc k).2 with rounds := 0 } =
    ⟨k.extractLsb' 0 64, mantis_unpack_rotated_block_le (k.extractLsb' 0 64), k.extractLsb' 64 64, 0, 0⟩ := by
  rcases T with ⟨_ | _ | _ | _⟩ | _ <;> dsimp only [srcM, opsMantis, opsArdM] <;>
    refine (MantisKey.mk.injEq ..).mpr ⟨?_, ?_, ?_, ?_, rfl⟩ <;> keyfield

theorem srcM_setKeyDec (k : BitVec 128) : { MantisKey.ofImage ((srcM T).setKeyDec k).2 with rounds := 0 } =
    ⟨mantis_unpack_rotated_block_le (k.extractLsb' 0 64), k.extractLsb' 0 64, k.extractLsb' 64 64 ^^^ alphaImg, 0, 0⟩ := by
  rcases T with ⟨_ | _ | _ | _⟩ | _ <;> dsimp only [srcM, opsMantis, opsArdM] <;>
    refine (MantisKey.mk.injEq ..).mpr ⟨?_, ?_, ?_, ?_, rfl⟩ <;> keyfield

theorem srcM_swapModes (ks : MantisKey) : { MantisKey.ofImage ((srcM T).swapModes ks.image) with rounds := 0 } =
    ⟨ks.k0prime, ks.k0, ks.k1 ^^^ alphaImg, ks.tweak, 0⟩ := by
  rcases T with ⟨_ | _ | _ | _⟩ | _ <;> dsimp only [srcM, opsMantis, opsArdM] <;>
    refine (MantisKey.mk.injEq ..).mpr ⟨?_, ?_, ?_, ?_, rfl⟩ <;> keyfield

theorem srcM_unpack0 (x : BitVec 128) : (srcM T).unpack0 x = x.extractLsb' 0 64 := by
  rcases T with ⟨_ | _ | _ | _⟩ | _ <;> dsimp only [srcM, opsMantis, opsArdM] <;>
    img_bytes [mantis_unpack_block_le_0, mantis_unpack_block_be_0]

theorem srcM_keys : MantisKeysOK (srcM T) where
  enc_k0 k := congrArg MantisKey.k0 (srcM_setKeyEnc T k)
  enc_k0p k := congrArg MantisKey.k0prime (srcM_setKeyEnc T k)
  enc_k1 k := congrArg MantisKey.k1 (srcM_setKeyEnc T k)
  enc_tw k := congrArg MantisKey.tweak (srcM_setKeyEnc T k)
  dec_k0 k := congrArg MantisKey.k0 (srcM_setKeyDec T k)
  dec_k0p k := congrArg MantisKey.k0prime (srcM_setKeyDec T k)
  dec_k1 k := congrArg MantisKey.k1 (srcM_setKeyDec T k)
  dec_tw k := congrArg MantisKey.tweak (srcM_setKeyDec T k)
  unpack0 := srcM_unpack0 T
  swap_k0 ks := congrArg MantisKey.k0 (srcM_swapModes T ks)
  swap_k0p ks := congrArg MantisKey.k0prime (srcM_swapModes T ks)
  swap_k1 ks := congrArg MantisKey.k1 (srcM_swapModes T ks)
  swap_tw ks := (congrArg MantisKey.tweak (srcM_swapModes T ks) :)

/-! ## the round constants -/

/-- the three spellings of `RC()` in the sources give one table of memory images -/
theorem srcM_rc_eq : (srcM T).rc = mantis_rc_64le := by
  rcases T with ⟨_ | _ | _ | _⟩ | _ <;> decide

end

/-- ... and they are the paper's constants, in the byte order the rows use -/
theorem rc_cells : ∀ i, i < 8 → cells4 (mantis_rc_64le.getD i 0) = rcCells i := by
  intro i hi
  nat_cases i 8 <;> decide +kernel

theorem srcM_rc (T : Src) : ∀ i, i < 8 → cells4 ((srcM T).rc.getD i 0) = rcCells i := by
  rw [srcM_rc_eq]; exact rc_cells

theorem mantisPieces_ard : MantisPiecesOK opsArdM := srcM_pieces .arduino
theorem mantisKeys_ard : MantisKeysOK opsArdM := srcM_keys .arduino

end SkinnyVerif.Lemmas
