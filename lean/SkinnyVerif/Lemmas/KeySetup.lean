/-
Key setup (one block size, any correct table of generated pieces): `set_key_inner` leaves the specification's
round keys in the schedule, for every key length in the documented range -- a length between two primary
sizes behaves as the key bytes followed by zeros (the partial-word loaders zero-pad and read no
uninitialised memory).
-/
import SkinnyVerif.Lemmas.Variant

namespace SkinnyVerif.Lemmas
open SkinnyVerif SkinnyVerif.Gen SkinnyVerif.Spec.Skinny SkinnyVerif.Impl

/-- the block at offset `m` of the first `n` bytes, when `j` of its bytes lie below `n` -/
theorem block_of_take {α : Type} (l : List α) {n m bs j : Nat} (hj : j = min bs (n - m)) :
    ((l.take n).drop m).take bs = (l.drop m).take j := by
  rw [List.drop_take, List.take_take, hj]

namespace Variant.OK
variable {b h s : Nat} {V : Variant b h s} (ok : V.OK) {o : SkinnyOps b h}
include ok

/-- a block that starts at or after the end of the bytes is a zero tweakey word -/
theorem block_beyond (l : Bytes) {n m bs : Nat} (hm : n ≤ m) : V.ofBytes (((l.take n).drop m).take bs) = zeroCells s := by
  rw [List.drop_eq_nil_of_le (Nat.le_trans (List.length_take_le n l) hm), List.take_nil, ok.ofBytes, image_nil, ok.abs.cells_zero]

/-- trailing zero bytes do not change any tweakey word -/
theorem block_pad (T : Bytes) (k m : Nat) :
    V.ofBytes (((T ++ zeros k).drop m).take V.p.bs) = V.ofBytes ((T.drop m).take V.p.bs) := by
  have hb : b ≤ 8 * V.p.bs := Nat.le_of_eq ok.bits
  rw [ok.ofBytes, ok.ofBytes, image_take b _ _ hb, image_take b _ _ hb, List.drop_append, zeros, List.drop_replicate]
  exact congrArg V.A.cells (image_append_zeros b _ _)

theorem tweakey_pad (T : Bytes) (k : Nat) : V.tweakey (T ++ zeros k) = V.tweakey T := by
  have h0 := ok.block_pad T k 0
  simp only [List.drop_zero] at h0
  simp only [Variant.tweakey, h0, ok.block_pad]

omit ok in
/-- a leading block of exactly `bs` bytes is TK1 and shifts the other words by one -/
theorem tweakey_append (tw K : Bytes) (htw : tw.length = V.p.bs) :
    V.tweakey (tw ++ K) = ⟨V.ofBytes tw, (V.tweakey K).tk1, (V.tweakey K).tk2⟩ := by
  have h2 : (tw ++ K).drop (2 * V.p.bs) = K.drop V.p.bs := by
    rw [Nat.two_mul, ← List.drop_drop, List.drop_left' htw]
  simp only [Variant.tweakey, List.take_left' htw, List.drop_left' htw, h2]

variable (hc : OpsCorrectG V.A o)
include hc

/-- `set_key_inner`, no tweak -/
theorem setKeyInner_plain (ks : KeySched h) (hlen : V.p.r3 ≤ ks.sched.length) (key : Bytes) (size : Nat) (j2 j3 : BitVec b)
    (h1 : V.p.bs ≤ size) (h3 : size ≤ 3 * V.p.bs) :
    Keyed V.A (setKeyInner o V.p ks key size none j2 j3)
      (if size = V.p.bs then V.p.r1 else if size ≤ 2 * V.p.bs then V.p.r2 else V.p.r3) (V.tweakey (key.take size)) 0 := by
  have hb := ok.bits; have hbs := ok.bs_pos
  have hl2 : V.p.r2 ≤ ks.sched.length := Nat.le_trans ok.r23 hlen
  rw [Variant.tweakey, List.take_take, Nat.min_eq_left h1, ok.ofBytes (key.take _), image_take b key V.p.bs (by omega)]
  by_cases hs1 : size = V.p.bs
  · have k := Keyed.set_tk1 hc ok.abs { ks with rounds := V.p.r1 } key false rfl (Nat.le_trans ok.r12 hl2)
    simp only [setKeyInner, hs1, if_true]
    rw [ok.block_beyond key (Nat.le_refl _), ok.block_beyond key (by omega)]
    exact k
  · by_cases hs2 : size ≤ 2 * V.p.bs
    · have k := (Keyed.set_tk1 hc ok.abs { ks with rounds := V.p.r2 } key false rfl hl2).set_tk2 hc ok.abs
        (key.drop V.p.bs) (size - V.p.bs) j2 (by omega) (by omega)
      simp only [setKeyInner, hs1, hs2, if_false, if_true]
      rw [block_of_take key (j := size - V.p.bs) (by omega), ok.block_beyond key hs2, ok.ofBytes]
      exact k
    · have k := ((Keyed.set_tk1 hc ok.abs { ks with rounds := V.p.r3 } key false rfl hlen).set_tk2 hc ok.abs
        (key.drop V.p.bs) V.p.bs j2 hbs (by omega)).set_tk3 hc ok.abs (key.drop (2 * V.p.bs)) (size - 2 * V.p.bs) j3 (by omega) (by omega)
      simp only [setKeyInner, hs1, hs2, if_false]
      rw [block_of_take key (j := V.p.bs) (by omega), block_of_take key (j := size - 2 * V.p.bs) (by omega), ok.ofBytes, ok.ofBytes]
      exact k

/-- `set_key_inner` with a tweak: the tweak is TK1, the key moves up by one word, the domain bit is set -/
theorem setKeyInner_tweaked (ks : KeySched h) (hlen : V.p.r3 ≤ ks.sched.length) (key tw : Bytes) (size : Nat) (j2 j3 : BitVec b)
    (h1 : V.p.bs ≤ size) (h2 : size ≤ 2 * V.p.bs) :
    Keyed V.A (setKeyInner o V.p ks key size (some tw) j2 j3) (if size = V.p.bs then V.p.r2 else V.p.r3)
      ⟨V.A.cells (image b tw), (V.tweakey (key.take size)).tk1, (V.tweakey (key.take size)).tk2⟩ 2 := by
  have hb := ok.bits; have hbs := ok.bs_pos
  simp only [Variant.tweakey]
  rw [List.take_take, Nat.min_eq_left h1]
  by_cases hs1 : size = V.p.bs
  · have k := (Keyed.set_tk1 hc ok.abs { ks with rounds := V.p.r2 } tw true rfl (Nat.le_trans ok.r23 hlen)).set_tk2 hc ok.abs key V.p.bs j2 hbs (by omega)
    simp only [setKeyInner, hs1, if_true]
    rw [ok.block_beyond key (Nat.le_refl _), ok.ofBytes]
    exact k
  · have k := ((Keyed.set_tk1 hc ok.abs { ks with rounds := V.p.r3 } tw true rfl hlen).set_tk2 hc ok.abs key V.p.bs j2 hbs (by omega)).set_tk3
      hc ok.abs (key.drop V.p.bs) (size - V.p.bs) j3 (by omega) (by omega)
    simp only [setKeyInner, hs1, if_false]
    rw [block_of_take key (j := size - V.p.bs) (by omega), ok.ofBytes, ok.ofBytes]
    exact k

end Variant.OK
end SkinnyVerif.Lemmas
