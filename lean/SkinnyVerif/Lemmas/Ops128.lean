/-
SKINNY-128: the pieces translated from `skinny128-cipher.c` in each of the four build configurations, and
those translated from the portable path of `arduino/libraries/Skinny/Skinny128.cpp`, are correct
(`src128_correct`).  Every piece is unfolded and compared with the literal form of its specification
cell by cell, the images byte by byte, as windows of the inputs; the same script serves all five.
-/
import SkinnyVerif.Lemmas.OpsCorrect
import SkinnyVerif.Gen.Arduino128LeafLanes
import SkinnyVerif.Gen.Arduino128Pieces

namespace SkinnyVerif.Properties
open SkinnyVerif.Gen SkinnyVerif.Impl

/-- the pieces translated from `Skinny128.cpp`; the TK2/TK3 loaders of the port copy 16 bytes -/
def opsArd128 : SkinnyOps 128 64 :=
  { encLoad := ard128_enc_load, encRound := ard128_enc_round, encStore := ard128_enc_store,
    decLoad := ard128_dec_load, decRound := ard128_dec_round, decStore := ard128_dec_store,
    tk1Load := ard128_tk1_load, tk1Step0 := ard128_tk1_step_t0, tk1Step1 := ard128_tk1_step_t1,
    xorTk1Load := ard128_xor_tk1_load, xorTk1Step := ard128_xor_tk1_step,
    tk2Load := fun k _ key => ard128_tk2_load key &&& BitVec.ofNat 128 (2 ^ (8 * k) - 1), tk2Step := ard128_tk2_step,
    tk3Load := fun k _ key => ard128_tk3_load key &&& BitVec.ofNat 128 (2 ^ (8 * k) - 1), tk3Step := ard128_tk3_step,
    loadUsesJunk := false }

end SkinnyVerif.Properties

namespace SkinnyVerif.Lemmas
open SkinnyVerif SkinnyVerif.Gen SkinnyVerif.Spec.Skinny SkinnyVerif.Impl SkinnyVerif.Properties

def src128 : Src → SkinnyOps 128 64
  | .c t => ops128 t
  | .arduino => opsArd128

/-- the five tables and what they call, unfolded -/
syntax "cells128 " ident : tactic
macro_rules
  | `(tactic| cells128 $g:ident) => `(tactic| cellwise $g [abs128, Abs.rk, src128, ops128, opsArd128, skinny128_permute_tk_64le, skinny128_permute_tk_32])

syntax "bytes128" : tactic
macro_rules
  | `(tactic| bytes128) => `(tactic| lanewise 8 16 [src128, ops128, opsArd128, Nat.reducePow])

set_option maxRecDepth 8000

section
variable (T : Src)

theorem src128_encLoad : ∀ x, (src128 T).encLoad x = x := by
  intro x; rcases T with ⟨_ | _ | _ | _⟩ | _ <;> bytes128

theorem src128_encStore : ∀ x, (src128 T).encStore x = x := by
  intro x; rcases T with ⟨_ | _ | _ | _⟩ | _ <;> bytes128

theorem src128_decLoad : ∀ x, (src128 T).decLoad x = x := by
  intro x; rcases T with ⟨_ | _ | _ | _⟩ | _ <;> bytes128

theorem src128_decStore : ∀ x, (src128 T).decStore x = x := by
  intro x; rcases T with ⟨_ | _ | _ | _⟩ | _ <;> bytes128

theorem src128_encRound : ∀ st sk, cells8 ((src128 T).encRound st sk) = round ops8 (abs128.rk sk) (cells8 st) := by
  intro st sk; rw [round_lit]; rcases T with ⟨_ | _ | _ | _⟩ | _ <;> cells128 cells8_get

theorem src128_decRound : ∀ st sk, cells8 ((src128 T).decRound st sk) = roundInv ops8 (abs128.rk sk) (cells8 st) := by
  intro st sk; rw [roundInv_lit]; rcases T with ⟨_ | _ | _ | _⟩ | _ <;> cells128 cells8_get

theorem src128_tk1Load : ∀ k, (src128 T).tk1Load k = (k, 0) := by
  intro k; rcases T with ⟨_ | _ | _ | _⟩ | _ <;> exact Prod.ext (by bytes128) rfl

theorem src128_tk1Step0_e : ∀ tk rc, top8 ((src128 T).tk1Step0 tk rc).1 = xorCells (topRows (cells8 tk)) (constTop 8 (rcStep8 rc) 0) := by
  intro tk rc; rw [xorCells_lit]; rcases T with ⟨_ | _ | _ | _⟩ | _ <;> cells128 top8_get

theorem src128_tk1Step0_tk : ∀ tk rc, cells8 ((src128 T).tk1Step0 tk rc).2.1 = permute PT (cells8 tk) := by
  intro tk rc; rw [permute_PT]; rcases T with ⟨_ | _ | _ | _⟩ | _ <;> cells128 cells8_get

theorem src128_tk1Step0_rc : ∀ tk rc, ((src128 T).tk1Step0 tk rc).2.2 = rcStep8 rc := by
  intro tk rc; rcases T with ⟨_ | _ | _ | _⟩ | _ <;> windows [src128, ops128, opsArd128, rcStep8]

theorem src128_tk1Step1_e : ∀ tk rc, top8 ((src128 T).tk1Step1 tk rc).1 = xorCells (topRows (cells8 tk)) (constTop 8 (rcStep8 rc) 2) := by
  intro tk rc; rw [xorCells_lit]; rcases T with ⟨_ | _ | _ | _⟩ | _ <;> cells128 top8_get

theorem src128_tk1Step1_tk : ∀ tk rc, cells8 ((src128 T).tk1Step1 tk rc).2.1 = permute PT (cells8 tk) := by
  intro tk rc; rw [permute_PT]; rcases T with ⟨_ | _ | _ | _⟩ | _ <;> cells128 cells8_get

theorem src128_tk1Step1_rc : ∀ tk rc, ((src128 T).tk1Step1 tk rc).2.2 = rcStep8 rc := by
  intro tk rc; rcases T with ⟨_ | _ | _ | _⟩ | _ <;> windows [src128, ops128, opsArd128, rcStep8]

theorem src128_xorTk1Load : ∀ k, (src128 T).xorTk1Load k = k := by
  intro k; rcases T with ⟨_ | _ | _ | _⟩ | _ <;> bytes128

theorem src128_xorTk1Step_e : ∀ e tk, top8 ((src128 T).xorTk1Step e tk).1 = xorCells (top8 e) (topRows (cells8 tk)) := by
  intro e tk; rw [xorCells_lit]; rcases T with ⟨_ | _ | _ | _⟩ | _ <;> cells128 top8_get

theorem src128_xorTk1Step_tk : ∀ e tk, cells8 ((src128 T).xorTk1Step e tk).2 = permute PT (cells8 tk) := by
  intro e tk; rw [permute_PT]; rcases T with ⟨_ | _ | _ | _⟩ | _ <;> cells128 cells8_get

theorem src128_tk2Step_e : ∀ e tk, top8 ((src128 T).tk2Step e tk).1 = xorCells (top8 e) (topRows (cells8 tk)) := by
  intro e tk; rw [xorCells_lit]; rcases T with ⟨_ | _ | _ | _⟩ | _ <;> cells128 top8_get

theorem src128_tk2Step_tk : ∀ e tk, cells8 ((src128 T).tk2Step e tk).2 = mapTop lfsr2_8 (permute PT (cells8 tk)) := by
  intro e tk; rw [mapTop_permute_PT]; rcases T with ⟨_ | _ | _ | _⟩ | _ <;> cells128 cells8_get

theorem src128_tk3Step_e : ∀ e tk, top8 ((src128 T).tk3Step e tk).1 = xorCells (top8 e) (topRows (cells8 tk)) := by
  intro e tk; rw [xorCells_lit]; rcases T with ⟨_ | _ | _ | _⟩ | _ <;> cells128 top8_get

theorem src128_tk3Step_tk : ∀ e tk, cells8 ((src128 T).tk3Step e tk).2 = mapTop lfsr3_8 (permute PT (cells8 tk)) := by
  intro e tk; rw [mapTop_permute_PT]; rcases T with ⟨_ | _ | _ | _⟩ | _ <;> cells128 cells8_get

end

/-- the loaders for a key of `k` bytes, `k = 1 … 16`, one configuration at a time -/
syntax "loader128" : tactic
macro_rules
  | `(tactic| loader128) => `(tactic|
    (intro k junk key h1 h2
     have : k ≤ 16 := by omega
     nat_cases k 17
     · omega
     all_goals bytes128))

theorem tk2Load128_64le : ∀ k junk key, 1 ≤ k → 8 * k ≤ 128 → (ops128 .c64le).tk2Load k junk key = key &&& BitVec.ofNat 128 (2 ^ (8 * k) - 1) := by
  loader128
theorem tk2Load128_32le : ∀ k junk key, 1 ≤ k → 8 * k ≤ 128 → (ops128 .c32le).tk2Load k junk key = key &&& BitVec.ofNat 128 (2 ^ (8 * k) - 1) := by
  loader128
theorem tk2Load128_64be : ∀ k junk key, 1 ≤ k → 8 * k ≤ 128 → (ops128 .c64be).tk2Load k junk key = key &&& BitVec.ofNat 128 (2 ^ (8 * k) - 1) := by
  loader128
theorem tk2Load128_32be : ∀ k junk key, 1 ≤ k → 8 * k ≤ 128 → (ops128 .c32be).tk2Load k junk key = key &&& BitVec.ofNat 128 (2 ^ (8 * k) - 1) := by
  loader128

theorem tk3Load128_64le : ∀ k junk key, 1 ≤ k → 8 * k ≤ 128 → (ops128 .c64le).tk3Load k junk key = key &&& BitVec.ofNat 128 (2 ^ (8 * k) - 1) := by
  loader128
theorem tk3Load128_32le : ∀ k junk key, 1 ≤ k → 8 * k ≤ 128 → (ops128 .c32le).tk3Load k junk key = key &&& BitVec.ofNat 128 (2 ^ (8 * k) - 1) := by
  loader128
theorem tk3Load128_64be : ∀ k junk key, 1 ≤ k → 8 * k ≤ 128 → (ops128 .c64be).tk3Load k junk key = key &&& BitVec.ofNat 128 (2 ^ (8 * k) - 1) := by
  loader128
theorem tk3Load128_32be : ∀ k junk key, 1 ≤ k → 8 * k ≤ 128 → (ops128 .c32be).tk3Load k junk key = key &&& BitVec.ofNat 128 (2 ^ (8 * k) - 1) := by
  loader128

theorem ard128_tk_loads (key : BitVec 128) : ard128_tk2_load key = key ∧ ard128_tk3_load key = key := by
  constructor <;> bytes128

theorem src128_correct (T : Src) : OpsCorrectG abs128 (src128 T) :=
  ⟨src128_encLoad T, src128_encStore T, src128_decLoad T, src128_decStore T, src128_encRound T, src128_decRound T,
   src128_tk1Load T, src128_tk1Step0_e T, src128_tk1Step0_tk T, src128_tk1Step0_rc T, src128_tk1Step1_e T,
   src128_tk1Step1_tk T, src128_tk1Step1_rc T, src128_xorTk1Load T, src128_xorTk1Step_e T, src128_xorTk1Step_tk T,
   src128_tk2Step_e T, src128_tk2Step_tk T, src128_tk3Step_e T, src128_tk3Step_tk T,
   match T with
   | .c .c64le => tk2Load128_64le | .c .c32le => tk2Load128_32le | .c .c64be => tk2Load128_64be | .c .c32be => tk2Load128_32be
   | .arduino => fun _ _ key _ _ => congrArg (· &&& _) (ard128_tk_loads key).1,
   match T with
   | .c .c64le => tk3Load128_64le | .c .c32le => tk3Load128_32le | .c .c64be => tk3Load128_64be | .c .c32be => tk3Load128_32be
   | .arduino => fun _ _ key _ _ => congrArg (· &&& _) (ard128_tk_loads key).2⟩

theorem opsG128 (t : Tag) : OpsCorrectG abs128 (ops128 t) := src128_correct (.c t)

end SkinnyVerif.Lemmas

namespace SkinnyVerif.Properties
open SkinnyVerif.Lemmas

theorem opsArdG128 : OpsCorrectG abs128 opsArd128 := src128_correct .arduino

end SkinnyVerif.Properties
