/-
Per-lane counter increments of the vector CTR back ends (`skinny128_ctr_increment` in
`skinny128-ctr-vec128.c` / `-vec256.c`, `skinny64_ctr_increment`, `mantis_ctr_increment`).  The C
function walks the bytes of one column of the *strided* counter image
(`SkinnyVector4x32_t counter[4]` etc.: row-sliced, lane `c` of row `r` holds bytes `4r .. 4r+3` of
counter `c`) from the least significant byte up, with a 32-bit accumulator
(`inc += ptr[0]; ptr[0] = (uint8_t)inc; inc >>= 8`).  The translator unrolls it for each constant
column; here is the generic part: what such a chain computes, as a number, and what is checked of each
translated function to know that it is such a chain (`ChainAt`) and touches nothing else (`RowsKept`).
-/
import SkinnyVerif.Lemmas.Counter
import SkinnyVerif.Basic.Windows
import SkinnyVerif.Gen.VecCounterLeaf

namespace SkinnyVerif.Lemmas
open SkinnyVerif

/-- accumulators of the byte-wise carry chain (bytes least significant first) -/
def accs : List (BitVec 8) → BitVec 32 → List (BitVec 32)
  | [], _ => []
  | b :: bs, k => (k + b.setWidth 32) :: accs bs ((k + b.setWidth 32) >>> 8)

/-- lane `q` of the image after the chain over the byte lanes `qs` (least significant first) -/
def chainLane {w : Nat} (img : BitVec w) (qs : List Nat) (k : BitVec 32) (q : Nat) : BitVec 8 :=
  if qs.idxOf q < qs.length then ((accs (qs.map (fun p => lane 8 p img)) k).getD (qs.idxOf q) 0).setWidth 8
  else lane 8 q img

/-- the bytes at lanes `qs`, as a number (least significant lane first) -/
def colVal {w : Nat} (qs : List Nat) (img : BitVec w) : Nat := valLE (qs.map (fun q => (lane 8 q img).toNat))

theorem accs_length (bs : List (BitVec 8)) (k : BitVec 32) : (accs bs k).length = bs.length := by
  induction bs generalizing k with
  | nil => rfl
  | cons b bs ih => simp [accs, ih]

/-- the chain on bit vectors is the chain on numbers, as long as the 32-bit accumulator cannot overflow -/
theorem accs_addChain (bs : List (BitVec 8)) (k : BitVec 32) (hk : k.toNat + 255 < 2 ^ 32) :
    (accs bs k).map (fun a => (a.setWidth 8).toNat) = addChain (bs.map (fun b => b.toNat)) k.toNat := by
  induction bs generalizing k with
  | nil => rfl
  | cons b bs ih =>
    have hb := b.isLt
    have hsum : (k + b.setWidth 32).toNat = b.toNat + k.toNat := by
      simp only [BitVec.toNat_add, BitVec.toNat_setWidth]
      omega
    have hcar : ((k + b.setWidth 32) >>> 8).toNat = (b.toNat + k.toNat) / 256 := by
      simp only [BitVec.toNat_ushiftRight, hsum, Nat.shiftRight_eq_div_pow]
    simp only [accs, List.map_cons, addChain]
    rw [ih _ (by rw [hcar]; omega), hcar]
    congr 1
    simp only [BitVec.toNat_setWidth, hsum]

theorem accs_val (bs : List (BitVec 8)) (k : BitVec 32) (hk : k.toNat + 255 < 2 ^ 32) :
    valLE ((accs bs k).map (fun a => (a.setWidth 8).toNat)) = (valLE (bs.map (fun b => b.toNat)) + k.toNat) % 256 ^ bs.length := by
  rw [accs_addChain bs k hk, addChain_val]; simp

/-- the bytes `qs` of `out` hold the carry chain of `k` through the bytes `qs` of `img` -/
def ChainAt {w : Nat} (qs : List Nat) (img : BitVec w) (k : BitVec 32) (out : BitVec w) : Prop :=
  qs.map (fun q => lane 8 q out) = (accs (qs.map fun q => lane 8 q img) k).map (·.setWidth 8)

/-- a column that holds the low bytes of the accumulators holds its old value plus `k` -/
theorem colVal_of_chain {w : Nat} (qs : List Nat) (img out : BitVec w) (k : BitVec 32) (h : ChainAt qs img k out)
    (hk : k.toNat + 255 < 2 ^ 32) : colVal qs out = (colVal qs img + k.toNat) % 256 ^ qs.length := by
  have hn := congrArg (List.map BitVec.toNat) h
  simp only [List.map_map, Function.comp_def] at hn
  simp only [colVal]
  rw [hn, accs_val _ _ hk]
  simp only [List.map_map, Function.comp_def, List.length_map]

/-- what a function with the lane behaviour `chainLane` does to the column it walks, and to everything else -/
theorem chain_column {w : Nat} (f : BitVec w → BitVec 32 → BitVec w) (qs : List Nat) (n : Nat) (hnd : qs.Nodup) (hqs : ∀ q ∈ qs, q < n)
    (hl : ∀ img k q, q < n → lane 8 q (f img k) = chainLane img qs k q) (img : BitVec w) (k : BitVec 32) :
    (k.toNat + 255 < 2 ^ 32 → colVal qs (f img k) = (colVal qs img + k.toNat) % 256 ^ qs.length) ∧
    (∀ q, q < n → q ∉ qs → lane 8 q (f img k) = lane 8 q img) := by
  constructor
  · refine colVal_of_chain qs img (f img k) k ?_
    apply List.ext_getElem
    · simp [accs_length]
    · intro i h1 h2
      have hi : i < qs.length := by simpa using h1
      simp only [List.getElem_map]
      rw [hl img k qs[i] (hqs _ (List.getElem_mem hi))]
      simp only [chainLane, hnd.idxOf_getElem i hi, hi, if_true]
      rw [List.getD_eq_getElem?_getD, List.getElem?_eq_getElem (by simpa [accs_length] using hi)]
      rfl
  · intro q hq hnot
    rw [hl img k q hq]
    have : ¬ qs.idxOf q < qs.length := by
      intro h
      exact hnot (List.idxOf_lt_length_iff.mp h)
    simp only [chainLane, this, if_false]

/-- In an image of four rows of `rb` bytes whose columns are `wb` bytes wide, every row of `out` is that of `img` below
and above column `c`.  Stated by windows as wide as the layout allows: this is what is computed for each translated
increment, and a wide window costs as much as a byte; as one equation of lists, so that it is one computation. -/
def RowsKept {w : Nat} (rb wb c : Nat) (img out : BitVec w) : Prop :=
  let parts (x : BitVec w) := (List.range 4).map fun r =>
    (x.extractLsb' (8 * (rb * r)) (8 * (wb * c)), x.extractLsb' (8 * (rb * r + wb * c + wb)) (8 * (rb - wb * c - wb)))
  parts out = parts img

theorem lane_of_rowsKept {w rb wb c : Nat} {img out : BitVec w} (h : RowsKept rb wb c img out)
    (q : Nat) (hq : q < 4 * rb) (ho : q % rb < wb * c ∨ wb * c + wb ≤ q % rb) : lane 8 q out = lane 8 q img := by
  have hr : q / rb < 4 := Nat.div_lt_of_lt_mul (by omega)
  have hdm := Nat.div_add_mod q rb
  have hm : q % rb < rb := Nat.mod_lt q (by omega)
  obtain ⟨hlo, hhi⟩ := Prod.mk.inj (List.map_inj_left.mp h (q / rb) (List.mem_range.mpr hr))
  rcases ho with ho | ho
  · exact lane_congr_of_win hlo q (by omega) (by omega)
  · exact lane_congr_of_win hhi q (by omega) (by omega)

/-- **a family of lane increments on a row-sliced image**: if byte `q` belongs to column `c` exactly when its offset in its
row lies in the `c`-th word, and the function for every column runs the chain through its column and keeps the rest of every
row, then each adds `k` to its column modulo `2^(8·4·wb)`, leaves every byte outside it alone, and so keeps the value of
every other column -/
theorem strided_increment {w : Nat} (rb wb n : Nat) (pos : Nat → List Nat) (inc : Nat → BitVec w → BitVec 32 → BitVec w)
    (hlen : ∀ c, (pos c).length = 4 * wb)
    (hmem : ∀ c, c < n → ∀ q, q ∈ pos c ↔ q < 4 * rb ∧ wb * c ≤ q % rb ∧ q % rb < wb * c + wb)
    (hchain : ∀ c, c < n → ∀ img k, ChainAt (pos c) img k (inc c img k))
    (hrows : ∀ c, c < n → ∀ img k, RowsKept rb wb c img (inc c img k))
    (c : Nat) (hc : c < n) (img : BitVec w) (k : BitVec 32) :
    (k.toNat + 255 < 2 ^ 32 → colVal (pos c) (inc c img k) = (colVal (pos c) img + k.toNat) % 2 ^ (8 * (4 * wb))) ∧
    (∀ q, q < 4 * rb → q ∉ pos c → lane 8 q (inc c img k) = lane 8 q img) ∧
    (∀ c', c' < n → c' ≠ c → colVal (pos c') (inc c img k) = colVal (pos c') img) := by
  have hs := lane_of_rowsKept (hrows c hc img k)
  refine ⟨fun hk => ?_, fun q hq hn => ?_, fun c' hc' hne => ?_⟩
  · rw [colVal_of_chain _ _ _ _ (hchain c hc img k) hk, hlen c, Nat.pow_mul 2 8]
  · have := mt (hmem c hc q).mpr hn
    exact hs q hq (by omega)
  · simp only [colVal]
    congr 1
    apply List.map_congr_left
    intro q hq
    obtain ⟨hq4, hlo, hhi⟩ := (hmem c' hc' q).mp hq
    -- the words of two different columns do not overlap
    rw [hs q hq4 ?_]
    rcases Nat.lt_or_gt_of_ne hne with h | h
    · have := Nat.mul_le_mul_left wb (Nat.succ_le_of_lt h)
      rw [Nat.mul_succ] at this
      exact Or.inl (by omega)
    · have := Nat.mul_le_mul_left wb (Nat.succ_le_of_lt h)
      rw [Nat.mul_succ] at this
      exact Or.inr (by omega)

/-! ## the layouts of the four vector CTR files -/

/-- byte lanes of column `c` in the strided counter image, least significant byte first -/
def pos128 (c : Nat) : List Nat := (List.range 16).map (fun j => ((15 - j) / 4) * 16 + c * 4 + (15 - j) % 4)

/-- rows of 16 bytes, column `c` is the `c`-th 4-byte word of each -/
theorem mem_pos128 {c : Nat} (hc : c < 4) (q : Nat) : q ∈ pos128 c ↔ q < 64 ∧ 4 * c ≤ q % 16 ∧ q % 16 < 4 * c + 4 := by
  simp only [pos128, List.mem_map, List.mem_range]
  constructor
  · rintro ⟨j, hj, rfl⟩
    omega
  · intro h
    exact ⟨15 - (4 * (q / 16) + q % 4), by omega, by omega⟩

def pos256 (c : Nat) : List Nat := (List.range 16).map (fun j => ((15 - j) / 4) * 32 + c * 4 + (15 - j) % 4)

/-- rows of 32 bytes, column `c` is the `c`-th 4-byte word of each -/
theorem mem_pos256 {c : Nat} (hc : c < 8) (q : Nat) : q ∈ pos256 c ↔ q < 128 ∧ 4 * c ≤ q % 32 ∧ q % 32 < 4 * c + 4 := by
  simp only [pos256, List.mem_map, List.mem_range]
  constructor
  · rintro ⟨j, hj, rfl⟩
    omega
  · intro h
    exact ⟨15 - (4 * (q / 32) + q % 4), by omega, by omega⟩

def pos64 (c : Nat) : List Nat := (List.range 8).map (fun j => ((7 - j) / 2) * 16 + c * 2 + (7 - j) % 2)

/-- rows of 16 bytes, column `c` is the `c`-th 2-byte word of each -/
theorem mem_pos64 {c : Nat} (hc : c < 8) (q : Nat) : q ∈ pos64 c ↔ q < 64 ∧ 2 * c ≤ q % 16 ∧ q % 16 < 2 * c + 2 := by
  simp only [pos64, List.mem_map, List.mem_range]
  constructor
  · rintro ⟨j, hj, rfl⟩
    omega
  · intro h
    exact ⟨7 - (2 * (q / 16) + q % 2), by omega, by omega⟩

/-- Mantis: the layout of `skinny64-ctr-vec128.c` -/
def pos64m (c : Nat) : List Nat := (List.range 8).map (fun j => ((7 - j) / 2) * 16 + c * 2 + (7 - j) % 2)

end SkinnyVerif.Lemmas

/-! ## the translated increments

Each family of translated functions against the two facts `strided_increment` asks for, column by column: the bytes of
the column through the output (`ChainAt`), and the rows outside the column (`RowsKept`). -/

namespace SkinnyVerif.Properties
open SkinnyVerif SkinnyVerif.Gen SkinnyVerif.Lemmas

/-- the translated increment for column `c` -/
def v128cInc : Nat → BitVec 512 → BitVec 32 → BitVec 512
  | 0 => v128c_inc_0
  | 1 => v128c_inc_1
  | 2 => v128c_inc_2
  | 3 => v128c_inc_3
  | _ => fun img _ => img

theorem v128cInc_chain (c : Nat) (hc : c < 4) (img : BitVec 512) (k : BitVec 32) : ChainAt (pos128 c) img k (v128cInc c img k) := by
  nat_cases c 4 <;> windows [ChainAt, v128cInc, pos128, List.range, List.range.loop, List.map, accs, Nat.reduceDiv]

theorem v128cInc_rows (c : Nat) (hc : c < 4) (img : BitVec 512) (k : BitVec 32) : RowsKept 16 4 c img (v128cInc c img k) := by
  nat_cases c 4 <;> windows [RowsKept, v128cInc, List.range, List.range.loop, List.map]

def v256cInc : Nat → BitVec 1024 → BitVec 32 → BitVec 1024
  | 0 => v256c_inc_0
  | 1 => v256c_inc_1
  | 2 => v256c_inc_2
  | 3 => v256c_inc_3
  | 4 => v256c_inc_4
  | 5 => v256c_inc_5
  | 6 => v256c_inc_6
  | 7 => v256c_inc_7
  | _ => fun img _ => img

theorem v256cInc_chain (c : Nat) (hc : c < 8) (img : BitVec 1024) (k : BitVec 32) : ChainAt (pos256 c) img k (v256cInc c img k) := by
  nat_cases c 8 <;> windows [ChainAt, v256cInc, pos256, List.range, List.range.loop, List.map, accs, Nat.reduceDiv]

theorem v256cInc_rows (c : Nat) (hc : c < 8) (img : BitVec 1024) (k : BitVec 32) : RowsKept 32 4 c img (v256cInc c img k) := by
  nat_cases c 8 <;> windows [RowsKept, v256cInc, List.range, List.range.loop, List.map]

def v64cInc : Nat → BitVec 512 → BitVec 32 → BitVec 512
  | 0 => v64c_inc_0
  | 1 => v64c_inc_1
  | 2 => v64c_inc_2
  | 3 => v64c_inc_3
  | 4 => v64c_inc_4
  | 5 => v64c_inc_5
  | 6 => v64c_inc_6
  | 7 => v64c_inc_7
  | _ => fun img _ => img

theorem v64cInc_chain (c : Nat) (hc : c < 8) (img : BitVec 512) (k : BitVec 32) : ChainAt (pos64 c) img k (v64cInc c img k) := by
  nat_cases c 8 <;> windows [ChainAt, v64cInc, pos64, List.range, List.range.loop, List.map, accs, Nat.reduceDiv]

theorem v64cInc_rows (c : Nat) (hc : c < 8) (img : BitVec 512) (k : BitVec 32) : RowsKept 16 2 c img (v64cInc c img k) := by
  nat_cases c 8 <;> windows [RowsKept, v64cInc, List.range, List.range.loop, List.map]

def vmcInc : Nat → BitVec 512 → BitVec 32 → BitVec 512
  | 0 => vmc_inc_0
  | 1 => vmc_inc_1
  | 2 => vmc_inc_2
  | 3 => vmc_inc_3
  | 4 => vmc_inc_4
  | 5 => vmc_inc_5
  | 6 => vmc_inc_6
  | 7 => vmc_inc_7
  | _ => fun img _ => img

theorem vmcInc_chain (c : Nat) (hc : c < 8) (img : BitVec 512) (k : BitVec 32) : ChainAt (pos64m c) img k (vmcInc c img k) := by
  nat_cases c 8 <;> windows [ChainAt, vmcInc, pos64m, List.range, List.range.loop, List.map, accs, Nat.reduceDiv]

theorem vmcInc_rows (c : Nat) (hc : c < 8) (img : BitVec 512) (k : BitVec 32) : RowsKept 16 2 c img (vmcInc c img k) := by
  nat_cases c 8 <;> windows [RowsKept, vmcInc, List.range, List.range.loop, List.map]

end SkinnyVerif.Properties
