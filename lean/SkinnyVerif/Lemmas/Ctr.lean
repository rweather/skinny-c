/-
CTR mode (generic in the block cipher, the block size, the batch size and the back-end style):
the keystream-buffer state machine of `*_ctr_*_encrypt` produces `input xor keystream` at the
current stream position, whatever the sizes of the calls, and leaves a state that continues
the same stream.  Proved by induction over the loop iterations of one call (`ctrLoop_spec`)
and then over the list of calls (`Properties/C05.lean`).  The invariant `CInv` speaks of the stream
position through `/` and `%`; the proofs read it through `cinv_iff`, which names the number of batches
generated so far instead.
-/
import SkinnyVerif.Basic.BytesLemmas
import SkinnyVerif.Basic.Loops
import SkinnyVerif.Impl.Modes
import SkinnyVerif.Spec.Modes

namespace SkinnyVerif.Lemmas
open SkinnyVerif SkinnyVerif.Impl

/-- keystream byte `p` for the counter family `ctr` (block `i` is `E (ctr i)`) -/
def ksByte (E : Bytes → Bytes) (bs : Nat) (ctr : Nat → Bytes) (p : Nat) : UInt8 :=
  (E (ctr (p / bs))).getD (p % bs) 0

def ksRange (E : Bytes → Bytes) (bs : Nat) (ctr : Nat → Bytes) (off n : Nat) : Bytes :=
  (List.range n).map fun j => ksByte E bs ctr (off + j)

theorem ksRange_length (E : Bytes → Bytes) (bs : Nat) (ctr : Nat → Bytes) (off n : Nat) : (ksRange E bs ctr off n).length = n := by
  simp [ksRange]

theorem ksRange_add (E : Bytes → Bytes) (bs : Nat) (ctr : Nat → Bytes) (off n1 n2 : Nat) :
    ksRange E bs ctr off (n1 + n2) = ksRange E bs ctr off n1 ++ ksRange E bs ctr (off + n1) n2 := by
  simp only [ksRange, List.range_add, List.map_append, List.map_map]
  congr 1
  apply List.map_congr_left
  intro j _
  simp [Nat.add_assoc]

theorem ksRange_take (E : Bytes → Bytes) (bs : Nat) (ctr : Nat → Bytes) (off n k : Nat) (h : k ≤ n) :
    (ksRange E bs ctr off n).take k = ksRange E bs ctr off k := by
  obtain ⟨m, rfl⟩ := Nat.exists_eq_add_of_le h
  rw [ksRange_add, List.take_append_of_le_length (by simp [ksRange_length]), List.take_of_length_le (by simp [ksRange_length])]

theorem ksRange_drop (E : Bytes → Bytes) (bs : Nat) (ctr : Nat → Bytes) (off n k : Nat) (h : k ≤ n) :
    (ksRange E bs ctr off n).drop k = ksRange E bs ctr (off + k) (n - k) := by
  obtain ⟨m, rfl⟩ := Nat.exists_eq_add_of_le h
  rw [ksRange_add, List.drop_append_of_le_length (by simp [ksRange_length]), List.drop_of_length_le (by simp [ksRange_length])]
  simp

/-- at a block boundary the next `bs` keystream bytes are one block encryption -/
theorem ksRange_block (E : Bytes → Bytes) (bs : Nat) (hE : ∀ x, (E x).length = bs) (ctr : Nat → Bytes) (i : Nat) :
    ksRange E bs ctr (i * bs) bs = E (ctr i) := by
  apply List.ext_getElem
  · rw [ksRange_length, hE]
  · intro j h1 h2
    have hj : j < bs := by simpa [ksRange_length] using h1
    simp only [ksRange, ksByte, List.getElem_map, List.getElem_range]
    rw [Nat.mul_comm, Nat.mul_add_div (by omega), Nat.mul_add_mod, Nat.div_eq_of_lt hj, Nat.mod_eq_of_lt hj, Nat.add_zero,
      List.getD_eq_getElem?_getD, List.getElem?_eq_getElem h2, Option.getD_some]

/-- the concatenated encryptions of `B` consecutive counter blocks are `B*bs` keystream bytes -/
theorem batch_eq_ksRange (E : Bytes → Bytes) (bs B : Nat) (hE : ∀ x, (E x).length = bs) (ctr : Nat → Bytes) (base : Nat) :
    ((List.range B).map (fun j => ctr (base + j))).flatMap E = ksRange E bs ctr (base * bs) (B * bs) := by
  induction B with
  | zero => simp [ksRange]
  | succ B ih =>
    rw [List.range_succ, List.map_append, List.flatMap_append, ih, Nat.succ_mul, ksRange_add, ← Nat.add_mul, ksRange_block E bs hE]
    simp

theorem xor_ks_split (E : Bytes → Bytes) (bs : Nat) (ctr : Nat → Bytes) (input : Bytes) (n k : Nat) (hk : k ≤ input.length) :
    xorBytes input (ksRange E bs ctr n input.length) =
      xorBytes (input.take k) (ksRange E bs ctr n k) ++ xorBytes (input.drop k) (ksRange E bs ctr (n + k) (input.length - k)) := by
  have hlen2 : input.length = k + (input.length - k) := by omega
  have h1 : xorBytes input (ksRange E bs ctr n input.length) =
      xorBytes (input.take k ++ input.drop k) (ksRange E bs ctr n k ++ ksRange E bs ctr (n + k) (input.length - k)) := by
    rw [List.take_append_drop, ← ksRange_add, ← hlen2]
  rw [h1, xorBytes_append _ _ _ _ (by simp [ksRange_length]; omega)]

theorem ceil_mul (bs k : Nat) (h : 0 < bs) : (k * bs + bs - 1) / bs = k := by
  have h1 : k * bs + bs - 1 = bs * k + (bs - 1) := by rw [Nat.mul_comm]; omega
  have h2 : bs - 1 < bs := by omega
  rw [h1, Nat.mul_add_div h, Nat.div_eq_of_lt h2, Nat.add_zero]

theorem ceil_add (bs k r : Nat) (h : 0 < bs) : (k * bs + r + bs - 1) / bs = k + (r + bs - 1) / bs := by
  have h1 : k * bs + r + bs - 1 = bs * k + (r + bs - 1) := by rw [Nat.mul_comm]; omega
  rw [h1, Nat.mul_add_div h]

theorem ceil_le (bs B r : Nat) (h : 0 < bs) (hr : r < B * bs) : (r + bs - 1) / bs ≤ B := by
  apply Nat.le_of_lt_succ
  apply Nat.div_lt_of_lt_mul
  have h1 : bs * B.succ = B * bs + bs := by rw [Nat.mul_succ, Nat.mul_comm]
  rw [h1]
  omega

/-! ## the loop invariant -/

/-- index of the first counter block of the next batch when `n` bytes have been consumed -/
def nextBase (W B n : Nat) : Nat := if n % W = 0 then (n / W) * B else (n / W + 1) * B

/-- the CTR context continues, at byte position `n`, the stream whose block `i` is
`E (ctr (b0 + i))` (the lane counters may lag behind by the pending increment) -/
structure CInv (E : Bytes → Bytes) (bs B : Nat) (lazy : Bool) (ctr : Nat → Bytes) (b0 n : Nat) (st : CtrState) : Prop where
  lanes : ∃ base, st.lanes = (List.range B).map (fun j => ctr (base + j)) ∧
    base + (if lazy then st.pending else 0) = b0 + nextBase (B * bs) B n ∧ st.pending ≤ B
  bufA : n % (B * bs) = 0 → st.offset ≥ B * bs
  bufB : n % (B * bs) ≠ 0 → st.offset = n % (B * bs) ∧
    st.ecounter = ksRange E bs (fun i => ctr (b0 + i)) ((n / (B * bs)) * (B * bs)) (B * bs) ∧ (lazy = true → st.pending = B)

/-- `CInv` without division.  `q` batches have been generated so far, so the next one starts at byte `q * (B*bs)` of
the stream and at counter block `b0 + q * B`; either the buffer is used up and `n` is that position, or it holds
batch `q - 1` and `offset` is how far into that batch `n` lies. -/
theorem cinv_iff {E : Bytes → Bytes} {bs B : Nat} {lazy : Bool} {ctr : Nat → Bytes} {b0 n : Nat} {st : CtrState} (hW : 0 < B * bs) :
    CInv E bs B lazy ctr b0 n st ↔
    ∃ base q, st.lanes = (List.range B).map (fun j => ctr (base + j)) ∧ st.pending ≤ B ∧
      base + (if lazy then st.pending else 0) = b0 + q * B ∧
      n + (B * bs - st.offset) = q * (B * bs) ∧ 0 < st.offset ∧
      (st.offset < B * bs → st.offset ≤ n ∧
        st.ecounter = ksRange E bs (fun i => ctr (b0 + i)) (n - st.offset) (B * bs) ∧ (lazy = true → st.pending = B)) := by
  have hdm := Nat.div_add_mod n (B * bs)
  constructor
  · rintro ⟨⟨base, hl, hb, hp⟩, hA, hBf⟩
    by_cases hr : n % (B * bs) = 0
    · have := hA hr
      refine ⟨base, n / (B * bs), hl, hp, by simpa [nextBase, hr] using hb, ?_, by omega, fun h => by omega⟩
      rw [Nat.mul_comm _ (B * bs)]; omega
    · obtain ⟨ho, he, hpB⟩ := hBf hr
      have := Nat.mod_lt n hW
      refine ⟨base, n / (B * bs) + 1, hl, hp, by simpa [nextBase, hr] using hb, ?_, by omega, fun _ => ⟨by omega, ?_, hpB⟩⟩
      · rw [Nat.add_mul, Nat.mul_comm _ (B * bs)]; omega
      · rw [he, Nat.mul_comm _ (B * bs)]; congr 1; omega
  · rintro ⟨base, q, hl, hp, hb, hn, h0, hbuf⟩
    by_cases ho : st.offset < B * bs
    · cases q with
      | zero => omega
      | succ q =>
        rw [Nat.add_mul, Nat.one_mul] at hn
        have hn' : n = B * bs * q + st.offset := by rw [Nat.mul_comm _ q]; omega
        have hmod : n % (B * bs) = st.offset := by rw [hn', Nat.mul_add_mod, Nat.mod_eq_of_lt ho]
        have hdiv : n / (B * bs) = q := by rw [hn', Nat.mul_add_div hW, Nat.div_eq_of_lt ho, Nat.add_zero]
        have hne : st.offset ≠ 0 := by omega
        obtain ⟨-, he, hpB⟩ := hbuf ho
        refine ⟨⟨base, hl, by simpa [nextBase, hmod, hdiv, hne] using hb, hp⟩, fun h => by omega, fun _ => ⟨hmod.symm, ?_, hpB⟩⟩
        rw [hdiv, he, Nat.mul_comm q]; congr 1; omega
    · have hn' : n = q * (B * bs) := by omega
      have hmod : n % (B * bs) = 0 := by rw [hn', Nat.mul_mod_left]
      have hdiv : n / (B * bs) = q := by rw [hn', Nat.mul_div_cancel _ hW]
      exact ⟨⟨base, hl, by simpa [nextBase, hmod, hdiv] using hb, hp⟩, fun _ => by omega, fun h => absurd hmod h⟩

section
variable (inc : Nat → Bytes → Bytes) (E : Bytes → Bytes) (bs B : Nat) (lazy : Bool) (ctr : Nat → Bytes)
variable (hbs : 0 < bs) (hB : 0 < B) (hE : ∀ x, (E x).length = bs)
variable (hinc : ∀ k i, k ≤ B → inc k (ctr i) = ctr (i + k))
include hinc

theorem map_inc_lanes (base k : Nat) (hk : k ≤ B) :
    ((List.range B).map fun j => ctr (base + j)).map (inc k) = (List.range B).map fun j => ctr (base + k + j) := by
  rw [List.map_map]
  apply List.map_congr_left
  intro j _
  rw [Function.comp, hinc _ _ hk, Nat.add_right_comm]

include hE

/-- the refill step of `ctrLoop` (`lanes0`, `lanes`, `pending` are its local definitions) when `q` batches have been
generated: the lanes, advanced by what is pending on the vector back ends, give batch `q` of the keystream, and the
context is left `B` blocks further on (on the vector back ends: will be, at the next refill) -/
theorem refill_spec (b0 q base : Nat) (st : CtrState) (hl : st.lanes = (List.range B).map (fun j => ctr (base + j)))
    (hp : st.pending ≤ B) (hb : base + (if lazy then st.pending else 0) = b0 + q * B)
    (lanes0 lanes : List Bytes) (pending : Nat) (h0 : lanes0 = if lazy then st.lanes.map (inc st.pending) else st.lanes)
    (h1 : lanes = if lazy then lanes0 else lanes0.map (inc B)) (h2 : pending = if lazy then B else st.pending) :
    lanes0.flatMap E = ksRange E bs (fun i => ctr (b0 + i)) (q * (B * bs)) (B * bs) ∧ pending ≤ B ∧ (lazy = true → pending = B) ∧
    ∃ base', lanes = (List.range B).map (fun j => ctr (base' + j)) ∧ base' + (if lazy then pending else 0) = b0 + (q + 1) * B := by
  have hks := batch_eq_ksRange E bs B hE (fun i => ctr (b0 + i)) (q * B)
  simp only [← Nat.add_assoc, Nat.mul_assoc] at hks
  cases lazy
  · simp only [Bool.false_eq_true, if_false, Nat.add_zero] at h0 h1 h2 hb ⊢
    rw [h1, h0, h2, hl, hb]
    exact ⟨hks, hp, (nomatch ·), _, map_inc_lanes inc B ctr hinc _ B (Nat.le_refl B), by rw [Nat.add_mul, Nat.one_mul, Nat.add_assoc]⟩
  · simp only [if_true] at h0 h1 h2 hb ⊢
    rw [h1, h0, h2, hl, map_inc_lanes inc B ctr hinc _ _ hp, hb]
    exact ⟨hks, Nat.le_refl B, fun _ => rfl, _, rfl, by rw [Nat.add_mul, Nat.one_mul, Nat.add_assoc]⟩

include hbs hB

theorem ctrLoop_spec (b0 fuel : Nat) (st : CtrState) (input out : Bytes) (n : Nat) (hf : input.length < fuel)
    (hinv : CInv E bs B lazy ctr b0 n st) :
    (ctrLoop inc E bs B lazy fuel st input out).2 = out ++ xorBytes input (ksRange E bs (fun i => ctr (b0 + i)) n input.length) ∧
    CInv E bs B lazy ctr b0 (n + input.length) (ctrLoop inc E bs B lazy fuel st input out).1 := by
  have hW : 0 < B * bs := Nat.mul_pos hB hbs
  fun_induction ctrLoop inc E bs B lazy fuel st input out generalizing n with
  | case1 => omega
  | case2 fuel st input out he =>
    rw [List.isEmpty_iff.mp he]
    exact ⟨by simp [xorBytes], hinv⟩
  | case3 fuel st input out _ ho lanes0 ec lanes pending hfull ih =>
    -- a new batch is generated and wholly used
    obtain ⟨base, q, hl, hp, hb, hn, h0, -⟩ := (cinv_iff hW).mp hinv
    obtain rfl : n = q * (B * bs) := by omega
    obtain ⟨hec, hp', -, base', hl', hb'⟩ := refill_spec inc E bs B lazy ctr hE hinc b0 q base st hl hp hb lanes0 lanes pending rfl rfl rfl
    have hec : ec = _ := hec
    obtain ⟨h1, h2⟩ := ih (q * (B * bs) + B * bs) (by rw [List.length_drop]; omega) ((cinv_iff hW).mpr
      ⟨base', q + 1, hl', hp', hb', by rw [Nat.add_mul]; show _ + (B * bs - st.offset) = _; omega, h0, fun h => absurd ho (Nat.not_le_of_lt h)⟩)
    rw [List.length_drop] at h1 h2
    constructor
    · rw [h1, hec, List.append_assoc, xor_ks_split E bs _ input _ (B * bs) hfull]
    · rwa [(by omega : q * (B * bs) + B * bs + (input.length - B * bs) = q * (B * bs) + input.length)] at h2
  | case4 fuel st input out hne ho lanes0 ec lanes pending hfull =>
    -- a new batch is generated for the last, partial part of the request
    obtain ⟨base, q, hl, hp, hb, hn, h0, -⟩ := (cinv_iff hW).mp hinv
    obtain rfl : n = q * (B * bs) := by omega
    obtain ⟨hec, hp', hpB, base', hl', hb'⟩ := refill_spec inc E bs B lazy ctr hE hinc b0 q base st hl hp hb lanes0 lanes pending rfl rfl rfl
    have hec : ec = _ := hec
    refine ⟨?_, (cinv_iff hW).mpr ⟨base', q + 1, hl', hp', hb', by rw [Nat.add_mul]; show _ + (B * bs - input.length) = _; omega,
      List.length_pos_iff.mpr (by simpa using hne), fun _ => ⟨Nat.le_add_left _ _, ?_, hpB⟩⟩⟩
    · rw [hec, xorBytes_take_right, ksRange_take _ _ _ _ _ _ (by omega)]
    · show ec = ksRange E bs _ (q * (B * bs) + input.length - input.length) _
      rw [hec, Nat.add_sub_cancel]
  | case5 fuel st input out hne ho temp ih =>
    -- left-over keystream from the previous request
    obtain ⟨base, q, hl, hp, hb, hn, h0, hbuf⟩ := (cinv_iff hW).mp hinv
    obtain ⟨hle, he, hpB⟩ := hbuf (by omega)
    have hpos : 0 < input.length := List.length_pos_iff.mpr (by simpa using hne)
    have ht : temp = min (B * bs - st.offset) input.length := rfl
    obtain ⟨h1, h2⟩ := ih (n + temp) (by rw [List.length_drop]; omega) ((cinv_iff hW).mpr
      ⟨base, q, hl, hp, hb, by show _ + (B * bs - (st.offset + temp)) = _; omega, by show 0 < st.offset + temp; omega,
        fun _ => ⟨by show st.offset + temp ≤ _; omega, by show st.ecounter = _; rw [he, (by omega : n + temp - (st.offset + temp) = n - st.offset)], hpB⟩⟩)
    rw [List.length_drop] at h1 h2
    constructor
    · rw [h1, List.append_assoc, xor_ks_split E bs _ input n temp (by omega), he, ksRange_drop _ _ _ _ _ _ (by omega),
        xorBytes_take_right (input.take temp), ksRange_take _ _ _ _ _ _ (by rw [List.length_take]; omega), List.length_take,
        (by omega : n - st.offset + st.offset = n), (by omega : min temp input.length = temp)]
    · rwa [(by omega : n + temp + (input.length - temp) = n + input.length)] at h2

omit hE hinc in
/-- keystream reset after a key or tweak change (`*_reset` of the vector back ends; `offset := bs`
of the generic one, for which `B = 1`): whatever cipher `E'` is in place afterwards, the stream
restarts at the first counter block that has not been used yet -/
theorem reset_inv (E' : Bytes → Bytes) (b0 n : Nat) (st : CtrState) (hgen : lazy = false → B = 1)
    (hinv : CInv E bs B lazy ctr b0 n st) :
    CInv E' bs B lazy ctr (b0 + (n + bs - 1) / bs) 0 (st.reset bs B lazy) := by
  have hW : 0 < B * bs := Nat.mul_pos hB hbs
  obtain ⟨base, q, hl, hp, hb, hn, h0, hbuf⟩ := (cinv_iff hW).mp hinv
  rw [cinv_iff hW]
  by_cases ho : st.offset < B * bs
  · -- part of batch `q - 1` was used: the blocks it touched are spent
    obtain ⟨-, -, hpB⟩ := hbuf ho
    cases q with
    | zero => omega
    | succ q =>
      rw [Nat.add_mul, Nat.one_mul] at hn hb
      have hceil : (n + bs - 1) / bs = q * B + (st.offset + bs - 1) / bs := by
        rw [← ceil_add bs (q * B) st.offset hbs, Nat.mul_assoc]; congr 2; omega
      have hu := ceil_le bs B st.offset hbs ho
      cases lazy
      · -- generic back end (B = 1): the counter was incremented right after the block was generated
        have hB1 := hgen rfl
        subst hB1
        have hu1 : (st.offset + bs - 1) / bs = 1 := by
          rw [(by omega : st.offset + bs - 1 = bs * 1 + (st.offset - 1)), Nat.mul_add_div hbs, Nat.div_eq_of_lt (by omega)]
        exact ⟨base, 0, hl, hp, by simp only [Bool.false_eq_true, if_false] at hb ⊢; omega, by simp [CtrState.reset],
          by simp [CtrState.reset]; omega, fun h => by simp [CtrState.reset] at h⟩
      · -- vector back ends: remember how many blocks of the batch were used
        have := hpB rfl
        simp only [CtrState.reset, if_true, ho]
        exact ⟨base, 0, hl, hu, by simp only [if_true] at hb ⊢; omega, by simp, hW, fun h => absurd h (Nat.lt_irrefl _)⟩
  · -- at a batch boundary nothing is buffered
    have hceil : (n + bs - 1) / bs = q * B := by
      rw [← ceil_mul bs (q * B) hbs, Nat.mul_assoc]; congr 2; omega
    have hst : (st.reset bs B lazy).lanes = st.lanes ∧ (st.reset bs B lazy).pending = st.pending ∧ B * bs ≤ (st.reset bs B lazy).offset := by
      cases lazy <;> simp [CtrState.reset, ho]
      omega
    obtain ⟨e1, e2, e3⟩ := hst
    exact ⟨base, 0, e1 ▸ hl, e2 ▸ hp, by rw [e2, hb, hceil]; omega, by omega, by omega, fun h => by omega⟩

end

/-! ## the specification's stream in these terms -/

open Spec.Modes in
theorem ctr_eq_ksRange (E : Bytes → Bytes) (bs : Nat) (c : Bytes) (n : Nat) (data : Bytes) :
    ctr E bs c n data = xorBytes data (ksRange E bs (fun i => ctrBlock bs c (0 + i)) n data.length) := by
  simp [ctr, keystream, keystreamByte, ksRange, ksByte]

open Spec.Modes in
theorem ctr_append (E : Bytes → Bytes) (bs : Nat) (c : Bytes) (n : Nat) (a b : Bytes) :
    ctr E bs c n (a ++ b) = ctr E bs c n a ++ ctr E bs c (n + a.length) b := by
  simp only [ctr_eq_ksRange]
  rw [xor_ks_split E bs _ (a ++ b) n a.length (by simp)]
  simp

open Spec.Modes in
theorem ctr_length (E : Bytes → Bytes) (bs : Nat) (c : Bytes) (n : Nat) (data : Bytes) : (ctr E bs c n data).length = data.length := by
  simp [ctr, keystream, xorBytes_length]

end SkinnyVerif.Lemmas
