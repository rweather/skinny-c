/-
The batch block functions of the vector CTR back ends (`skinny128_ecb_encrypt_four` of `src/skinny128-ctr-vec128.c`,
`skinny128_ecb_encrypt_eight` of `src/skinny128-ctr-vec256.c`, `skinny64_ecb_encrypt_eight` of
`src/skinny64-ctr-vec128.c`): the lane counters are kept row-sliced in the context ("strided" image,
`counter[4]` of row vectors), and the function encrypts them all at once.  The load segment reads the four
row vectors as they are; round body and store segment repeat those of the parallel-ECB files (`VecRound`,
`VecLoadStore`).  Shown here: what the load gives, and that the block it puts into lane `j` - column `j` of the image -
has the big-endian value that the lane increments of `Properties/C05V.lean` count with.
-/
import SkinnyVerif.Lemmas.VecBase
import SkinnyVerif.Lemmas.VecCounter
import SkinnyVerif.Gen.VecCtr128Pieces
import SkinnyVerif.Gen.VecCtr256Pieces
import SkinnyVerif.Gen.VecCtr64Pieces

namespace SkinnyVerif.Lemmas
open SkinnyVerif SkinnyVerif.Gen

/-- if row `a` (of `k` bytes) of `x` is row `i` of `y`, then byte `c` of the one is byte `c` of the other -/
theorem lane8_via_row {w v : Nat} (k : Nat) (x : BitVec w) (y : BitVec v) (a i c m q : Nat) (hc : c < k)
    (hm : m = k * a + c) (hq : q = k * i + c) (hrow : lane (8 * k) a x = lane (8 * k) i y) : lane 8 m x = lane 8 q y := by
  have h := congrArg (lane 8 c) hrow
  have hk : 8 * c + 8 ≤ 8 * k := Nat.mul_le_mul_left 8 hc
  simp only [lane] at h ⊢
  rw [win_win _ _ _ _ x hk, win_win _ _ _ _ y hk] at h
  subst hm hq
  simpa only [Nat.mul_add, Nat.mul_assoc] using h

set_option maxRecDepth 8000

/-! ## Skinny-128, 128-bit vectors -/

/-- the four row vectors of the strided counter image -/
def v128c_rows (img : BitVec 512) : BitVec 128 × BitVec 128 × BitVec 128 × BitVec 128 :=
  (img.extractLsb' 0 128, img.extractLsb' 128 128, img.extractLsb' 256 128, img.extractLsb' 384 128)

/-- the load segment reads the row vectors as they are -/
theorem v128c_enc_load_eq (img : BitVec 512) : v128c_enc_load img = v128c_rows img := by
  windows [v128c_rows, win_join]

/-- the counter block held by column `j` of the strided image (byte `i` of the block at bits `8 i`) -/
def v128c_column (img : BitVec 512) (j : Nat) : BitVec 128 := packT (laneRows (v128c_rows img) j)

theorem v128c_column_row (img : BitVec 512) (j : Nat) (hj : j < 4) (i : Nat) (hi : i < 4) :
    lane 32 i (v128c_column img j) = lane 32 (4 * i + j) img := by
  -- `j` stays a variable: lane `j` of a row vector is a window by `h`
  have h : 32 * j + 32 ≤ 128 := by omega
  nat_cases i 4 <;> windows [v128c_column, v128c_rows, packT, pack4, laneRows, h] <;> congr 1 <;> omega

/-- the big-endian value of that block is the column value of the lane increments (`C05V`) -/
theorem v128c_column_value (img : BitVec 512) (j : Nat) (hj : j < 4) :
    colVal (pos128 j) img = valLE ((List.range 16).map (fun t => (lane 8 (15 - t) (v128c_column img j)).toNat)) := by
  simp only [colVal, pos128, List.map_map, Function.comp_def]
  congr 1; apply List.map_congr_left; intro t _; congr 1
  exact (lane8_via_row 4 _ _ ((15 - t) / 4) _ ((15 - t) % 4) _ _ (by omega) (by omega) (by omega)
    (v128c_column_row img j hj _ (by omega))).symm

/-! ## Skinny-128, 256-bit vectors -/

def v256c_rows (img : BitVec 1024) : BitVec 256 × BitVec 256 × BitVec 256 × BitVec 256 :=
  (img.extractLsb' 0 256, img.extractLsb' 256 256, img.extractLsb' 512 256, img.extractLsb' 768 256)

theorem v256c_enc_load_eq (img : BitVec 1024) : v256c_enc_load img = v256c_rows img := by
  windows [v256c_rows, win_join]

def v256c_column (img : BitVec 1024) (j : Nat) : BitVec 128 := packT (laneRows8 (v256c_rows img) j)

theorem v256c_column_row (img : BitVec 1024) (j : Nat) (hj : j < 8) (i : Nat) (hi : i < 4) :
    lane 32 i (v256c_column img j) = lane 32 (8 * i + j) img := by
  have h : 32 * j + 32 ≤ 256 := by omega
  nat_cases i 4 <;> windows [v256c_column, v256c_rows, packT, pack4, laneRows8, h] <;> congr 1 <;> omega

theorem v256c_column_value (img : BitVec 1024) (j : Nat) (hj : j < 8) :
    colVal (pos256 j) img = valLE ((List.range 16).map (fun t => (lane 8 (15 - t) (v256c_column img j)).toNat)) := by
  simp only [colVal, pos256, List.map_map, Function.comp_def]
  congr 1; apply List.map_congr_left; intro t _; congr 1
  exact (lane8_via_row 4 _ _ ((15 - t) / 4) _ ((15 - t) % 4) _ _ (by omega) (by omega) (by omega)
    (v256c_column_row img j hj _ (by omega))).symm

/-! ## Skinny-64, 128-bit vectors -/

def v64c_rows (img : BitVec 512) : BitVec 128 × BitVec 128 × BitVec 128 × BitVec 128 :=
  (img.extractLsb' 0 128, img.extractLsb' 128 128, img.extractLsb' 256 128, img.extractLsb' 384 128)

theorem v64c_enc_load_eq (img : BitVec 512) : v64c_enc_load img = v64c_rows img := by
  windows [v64c_rows, win_join]

def v64c_column (img : BitVec 512) (j : Nat) : BitVec 64 := packTh (laneRowsH (v64c_rows img) j)

theorem v64c_column_row (img : BitVec 512) (j : Nat) (hj : j < 8) (i : Nat) (hi : i < 4) :
    lane 16 i (v64c_column img j) = lane 16 (8 * i + j) img := by
  have h : 16 * j + 16 ≤ 128 := by omega
  nat_cases i 4 <;> windows [v64c_column, v64c_rows, packTh, pack4h, laneRowsH, h] <;> congr 1 <;> omega

theorem v64c_column_value (img : BitVec 512) (j : Nat) (hj : j < 8) :
    colVal (pos64 j) img = valLE ((List.range 8).map (fun t => (lane 8 (7 - t) (v64c_column img j)).toNat)) := by
  simp only [colVal, pos64, List.map_map, Function.comp_def]
  congr 1; apply List.map_congr_left; intro t _; congr 1
  exact (lane8_via_row 2 _ _ ((7 - t) / 2) _ ((7 - t) % 2) _ _ (by omega) (by omega) (by omega)
    (v64c_column_row img j hj _ (by omega))).symm

end SkinnyVerif.Lemmas
