/-
The specification's decryption inverts its encryption (and vice versa), for every tweakey,
every domain constant and every number of rounds: each layer has an inverse
(`S⁻¹∘S = id` on the complete table, `M⁻¹·M = I`, `P⁻¹∘P = id`, the round key cancels) and the
round keys are the same in both directions.
-/
import SkinnyVerif.Lemmas.SpecForms
import SkinnyVerif.Basic.Loops

namespace SkinnyVerif.Lemmas
open SkinnyVerif SkinnyVerif.Spec.Skinny

/-! What is left in one cell of a matrix times its inverse: the other cells of the column cancel (bit by bit, by cases). -/
section
variable {w : Nat} (a b c : BitVec w)

theorem bvx_cancel_left : a ^^^ (a ^^^ b) = b := by
  rw [← BitVec.xor_assoc, BitVec.xor_self, BitVec.zero_xor]
theorem bvx_cancel_outer : a ^^^ b ^^^ a = b := by
  rw [BitVec.xor_comm, bvx_cancel_left]
theorem Minv_M_row1 : a ^^^ (b ^^^ c) ^^^ (a ^^^ c) = b := by
  ext i hi; simp only [BitVec.getElem_xor]; cases a[i] <;> cases b[i] <;> cases c[i] <;> rfl
theorem M_Minv_row0 : a ^^^ (a ^^^ c) ^^^ (b ^^^ c) = b := by
  ext i hi; simp only [BitVec.getElem_xor]; cases a[i] <;> cases b[i] <;> cases c[i] <;> rfl
theorem M_Minv_row2 : (a ^^^ b ^^^ c) ^^^ (a ^^^ c) = b := by
  ext i hi; simp only [BitVec.getElem_xor]; cases a[i] <;> cases b[i] <;> cases c[i] <;> rfl

end

section
variable {s : Nat}

/-! Each composite is brought to one literal vector and compared with the state cell by cell; a lemma applied with
`exact` reads the cells off the inner literal by unification (`simp` would rewrite all of its entries first). -/

theorem mulColumns_Minv_M (st : Cells s) : mulColumns Minv (mulColumns M st) = st := by
  rw [mulColumns_Minv, mulColumns_M]; symm; apply cells_eq_lit
  iterate 4 rfl
  iterate 4 exact (Minv_M_row1 ..).symm
  iterate 4 exact (bvx_cancel_left ..).symm
  iterate 4 exact (bvx_cancel_outer ..).symm

theorem mulColumns_M_Minv (st : Cells s) : mulColumns M (mulColumns Minv st) = st := by
  rw [mulColumns_M, mulColumns_Minv]; symm; apply cells_eq_lit
  iterate 4 exact (M_Minv_row0 ..).symm
  iterate 4 rfl
  iterate 4 exact (M_Minv_row2 ..).symm
  iterate 4 exact (bvx_cancel_left ..).symm

theorem permute_Pinv_P (st : Cells s) : permute Pinv (permute P st) = st := permute_permute st _ _ (by decide)
theorem permute_P_Pinv (st : Cells s) : permute P (permute Pinv st) = st := permute_permute st _ _ (by decide)

/-- the cell S-box and its inverse are mutually inverse -/
structure CellOpsOK (o : CellOps s) : Prop where
  inv_S : ∀ x, o.Sinv (o.S x) = x
  S_inv : ∀ x, o.S (o.Sinv x) = x

theorem roundInv_round (o : CellOps s) (ho : CellOpsOK o) (rk st : Cells s) : roundInv o rk (round o rk st) = st := by
  simp only [round, roundInv, mulColumns_Minv_M, permute_Pinv_P, xorCells_cancel, subCells_comp _ _ _ ho.inv_S]

theorem round_roundInv (o : CellOps s) (ho : CellOpsOK o) (rk st : Cells s) : round o rk (roundInv o rk st) = st := by
  simp only [round, roundInv, subCells_comp _ _ _ ho.S_inv, xorCells_cancel, permute_P_Pinv, mulColumns_M_Minv]

theorem decrypt_encrypt (o : CellOps s) (ho : CellOpsOK o) (r : Nat) (t : Tweakey s) (dom : BitVec s) (m : Cells s) :
    decrypt o r t dom (encrypt o r t dom m) = m :=
  foldl_reverse_cancel _ _ (fun st i => roundInv_round o ho (roundKey o t dom i) st) (List.range r) m

theorem encrypt_decrypt (o : CellOps s) (ho : CellOpsOK o) (r : Nat) (t : Tweakey s) (dom : BitVec s) (c : Cells s) :
    encrypt o r t dom (decrypt o r t dom c) = c :=
  foldl_cancel_reverse _ _ (fun st i => round_roundInv o ho (roundKey o t dom i) st) (List.range r) c

end
end SkinnyVerif.Lemmas
