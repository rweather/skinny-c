/-
MANTIS at the level of the specification: decryption (encryption under `(k0', k0, k1 ⊕ α)`)
inverts encryption, for every round count, key, tweak and block.
-/
import SkinnyVerif.Lemmas.SpecInverse

namespace SkinnyVerif.Lemmas
open SkinnyVerif SkinnyVerif.Spec.Skinny SkinnyVerif.Spec.Mantis

theorem bv_xor_cancel_left4 {w : Nat} (a b : BitVec w) : a ^^^ (a ^^^ b) = b := bvx_cancel_left a b

theorem P_Pinv (x : Cells 4) : permute PInv (permute PPerm x) = x := permute_permute x _ _ (by decide)
theorem Pinv_P (x : Cells 4) : permute PPerm (permute PInv x) = x := permute_permute x _ _ (by decide)
theorem h_hInv (x : Cells 4) : permute hInv (permute hPerm x) = x := permute_permute x _ _ (by decide)
theorem hInv_h (x : Cells 4) : permute hPerm (permute hInv x) = x := permute_permute x _ _ (by decide)

theorem mmA {w : Nat} (a b c d : BitVec w) : (a ^^^ c ^^^ d) ^^^ (a ^^^ b ^^^ d) ^^^ (a ^^^ b ^^^ c) = a := by
  ext i hi; simp only [BitVec.getElem_xor]; cases a[i] <;> cases b[i] <;> cases c[i] <;> cases d[i] <;> rfl
theorem mmB {w : Nat} (a b c d : BitVec w) : (b ^^^ c ^^^ d) ^^^ (a ^^^ b ^^^ d) ^^^ (a ^^^ b ^^^ c) = b := by
  ext i hi; simp only [BitVec.getElem_xor]; cases a[i] <;> cases b[i] <;> cases c[i] <;> cases d[i] <;> rfl
theorem mmC {w : Nat} (a b c d : BitVec w) : (b ^^^ c ^^^ d) ^^^ (a ^^^ c ^^^ d) ^^^ (a ^^^ b ^^^ c) = c := by
  ext i hi; simp only [BitVec.getElem_xor]; cases a[i] <;> cases b[i] <;> cases c[i] <;> cases d[i] <;> rfl
theorem mmD {w : Nat} (a b c d : BitVec w) : (b ^^^ c ^^^ d) ^^^ (a ^^^ c ^^^ d) ^^^ (a ^^^ b ^^^ d) = d := by
  ext i hi; simp only [BitVec.getElem_xor]; cases a[i] <;> cases b[i] <;> cases c[i] <;> cases d[i] <;> rfl

/-- the matrix of MixColumns is its own inverse: in each column, every cell is the sum of the other three, twice -/
theorem MM_twice (x : Cells 4) : mulColumns MM (mulColumns MM x) = x := by
  rw [mulColumns_MM (mulColumns MM x), mulColumns_MM x]; symm; apply cells_eq_lit
  iterate 4 exact (mmA ..).symm
  iterate 4 exact (mmB ..).symm
  iterate 4 exact (mmC ..).symm
  iterate 4 exact (mmD ..).symm

theorem bwd_fwd (k : Cells 4) (i : Nat) (st tw : Cells 4) :
    bwdRound k i (fwdRound k i st tw).1 (fwdRound k i st tw).2 = (st, tw) := by
  simp only [fwdRound, bwdRound, MM_twice, P_Pinv, xorCells_cancel, subCells_comp _ _ _ Sb0_involution, h_hInv]

theorem fwd_bwd (k : Cells 4) (i : Nat) (st tw : Cells 4) :
    fwdRound k i (bwdRound k i st tw).1 (bwdRound k i st tw).2 = (st, tw) := by
  simp only [fwdRound, bwdRound, hInv_h, subCells_comp _ _ _ Sb0_involution, xorCells_cancel, Pinv_P, MM_twice]

/-- `r` forward rounds followed by the `r` backward rounds (same key) return to the start -/
theorem bwd_fold_fwd_fold (k : Cells 4) (r : Nat) (a : Cells 4 × Cells 4) :
    (List.range r).reverse.foldl (fun (c : Cells 4 × Cells 4) i => bwdRound k i c.1 c.2)
      ((List.range r).foldl (fun (c : Cells 4 × Cells 4) i => fwdRound k i c.1 c.2) a) = a :=
  foldl_reverse_cancel _ _ (fun c i => bwd_fwd k i c.1 c.2) (List.range r) a

theorem fwd_fold_bwd_fold (k : Cells 4) (r : Nat) (a : Cells 4 × Cells 4) :
    (List.range r).foldl (fun (c : Cells 4 × Cells 4) i => fwdRound k i c.1 c.2)
      ((List.range r).reverse.foldl (fun (c : Cells 4 × Cells 4) i => bwdRound k i c.1 c.2) a) = a :=
  foldl_cancel_reverse _ _ (fun c i => fwd_bwd k i c.1 c.2) (List.range r) a

theorem mid_twice (x : Cells 4) :
    subCells Sb0 (mulColumns MM (subCells Sb0 (subCells Sb0 (mulColumns MM (subCells Sb0 x))))) = x := by
  rw [subCells_comp _ _ _ Sb0_involution, MM_twice, subCells_comp _ _ _ Sb0_involution]

end SkinnyVerif.Lemmas
