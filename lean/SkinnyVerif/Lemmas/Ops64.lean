/-
SKINNY-64: the pieces translated from `skinny64-cipher.c` in each of the four build configurations, and
those translated from the portable path of `arduino/libraries/Skinny/Skinny64.cpp`, are correct
(`src64_correct`).  Every piece is unfolded and compared with the literal form of its specification
cell by cell, the images byte by byte, as windows of the inputs; the same script serves all five.
-/
import SkinnyVerif.Lemmas.Ops128
import SkinnyVerif.Gen.Arduino64LeafLanes
import SkinnyVerif.Gen.Arduino64Pieces

namespace SkinnyVerif.Properties
open SkinnyVerif.Gen SkinnyVerif.Impl

/-- the pieces translated from `Skinny64.cpp`; the TK2/TK3 loaders of the port copy 8 bytes -/
def opsArd64 : SkinnyOps 64 32 :=
  { encLoad := ard64_enc_load, encRound := ard64_enc_round, encStore := ard64_enc_store,
    decLoad := ard64_dec_load, decRound := ard64_dec_round, decStore := ard64_dec_store,
    tk1Load := ard64_tk1_load, tk1Step0 := ard64_tk1_step_t0, tk1Step1 := ard64_tk1_step_t1,
    xorTk1Load := ard64_xor_tk1_load, xorTk1Step := ard64_xor_tk1_step,
    tk2Load := fun k _ key => ard64_tk2_load key &&& BitVec.ofNat 64 (2 ^ (8 * k) - 1), tk2Step := ard64_tk2_step,
    tk3Load := fun k _ key => ard64_tk3_load key &&& BitVec.ofNat 64 (2 ^ (8 * k) - 1), tk3Step := ard64_tk3_step,
    loadUsesJunk := false }

end SkinnyVerif.Properties

namespace SkinnyVerif.Lemmas
open SkinnyVerif SkinnyVerif.Gen SkinnyVerif.Spec.Skinny SkinnyVerif.Impl SkinnyVerif.Properties

def src64 : Src → SkinnyOps 64 32
  | .c t => ops64 t
  | .arduino => opsArd64

/-- the five tables and what they call, unfolded -/
syntax "cells64 " ident : tactic
macro_rules
  | `(tactic| cells64 $g:ident) => `(tactic| cellwise $g [abs64, Abs.rk, src64, ops64, opsArd64, skinny64_permute_tk_le, skinny64_permute_tk_be])

syntax "bytes64" : tactic
macro_rules
  | `(tactic| bytes64) => `(tactic| lanewise 8 8 [src64, ops64, opsArd64, Nat.reducePow])

set_option maxRecDepth 8000

section
variable (T : Src)

theorem src64_encLoad : ∀ x, (src64 T).encLoad x = x := by
  intro x; rcases T with ⟨_ | _ | _ | _⟩ | _ <;> bytes64

theorem src64_encStore : ∀ x, (src64 T).encStore x = x := by
  intro x; rcases T with ⟨_ | _ | _ | _⟩ | _ <;> bytes64

theorem src64_decLoad : ∀ x, (src64 T).decLoad x = x := by
  intro x; rcases T with ⟨_ | _ | _ | _⟩ | _ <;> bytes64

theorem src64_decStore : ∀ x, (src64 T).decStore x = x := by
  intro x; rcases T with ⟨_ | _ | _ | _⟩ | _ <;> bytes64

theorem src64_encRound : ∀ st sk, cells4 ((src64 T).encRound st sk) = round ops4 (abs64.rk sk) (cells4 st) := by
  intro st sk; rw [round_lit]; rcases T with ⟨_ | _ | _ | _⟩ | _ <;> cells64 cells4_get

theorem src64_decRound : ∀ st sk, cells4 ((src64 T).decRound st sk) = roundInv ops4 (abs64.rk sk) (cells4 st) := by
  intro st sk; rw [roundInv_lit]; rcases T with ⟨_ | _ | _ | _⟩ | _ <;> cells64 cells4_get

theorem src64_tk1Load : ∀ k, (src64 T).tk1Load k = (k, 0) := by
  intro k; rcases T with ⟨_ | _ | _ | _⟩ | _ <;> exact Prod.ext (by bytes64) rfl

theorem src64_tk1Step0_e : ∀ tk rc, top4 ((src64 T).tk1Step0 tk rc).1 = xorCells (topRows (cells4 tk)) (constTop 4 (rcStep8 rc) 0) := by
  intro tk rc; rw [xorCells_lit]; rcases T with ⟨_ | _ | _ | _⟩ | _ <;> cells64 top4_get

theorem src64_tk1Step0_tk : ∀ tk rc, cells4 ((src64 T).tk1Step0 tk rc).2.1 = permute PT (cells4 tk) := by
  intro tk rc; rw [permute_PT]; rcases T with ⟨_ | _ | _ | _⟩ | _ <;> cells64 cells4_get

theorem src64_tk1Step0_rc : ∀ tk rc, ((src64 T).tk1Step0 tk rc).2.2 = rcStep8 rc := by
  intro tk rc; rcases T with ⟨_ | _ | _ | _⟩ | _ <;> windows [src64, ops64, opsArd64, rcStep8]

theorem src64_tk1Step1_e : ∀ tk rc, top4 ((src64 T).tk1Step1 tk rc).1 = xorCells (topRows (cells4 tk)) (constTop 4 (rcStep8 rc) 2) := by
  intro tk rc; rw [xorCells_lit]; rcases T with ⟨_ | _ | _ | _⟩ | _ <;> cells64 top4_get

theorem src64_tk1Step1_tk : ∀ tk rc, cells4 ((src64 T).tk1Step1 tk rc).2.1 = permute PT (cells4 tk) := by
  intro tk rc; rw [permute_PT]; rcases T with ⟨_ | _ | _ | _⟩ | _ <;> cells64 cells4_get

theorem src64_tk1Step1_rc : ∀ tk rc, ((src64 T).tk1Step1 tk rc).2.2 = rcStep8 rc := by
  intro tk rc; rcases T with ⟨_ | _ | _ | _⟩ | _ <;> windows [src64, ops64, opsArd64, rcStep8]

theorem src64_xorTk1Load : ∀ k, (src64 T).xorTk1Load k = k := by
  intro k; rcases T with ⟨_ | _ | _ | _⟩ | _ <;> bytes64

theorem src64_xorTk1Step_e : ∀ e tk, top4 ((src64 T).xorTk1Step e tk).1 = xorCells (top4 e) (topRows (cells4 tk)) := by
  intro e tk; rw [xorCells_lit]; rcases T with ⟨_ | _ | _ | _⟩ | _ <;> cells64 top4_get

theorem src64_xorTk1Step_tk : ∀ e tk, cells4 ((src64 T).xorTk1Step e tk).2 = permute PT (cells4 tk) := by
  intro e tk; rw [permute_PT]; rcases T with ⟨_ | _ | _ | _⟩ | _ <;> cells64 cells4_get

theorem src64_tk2Step_e : ∀ e tk, top4 ((src64 T).tk2Step e tk).1 = xorCells (top4 e) (topRows (cells4 tk)) := by
  intro e tk; rw [xorCells_lit]; rcases T with ⟨_ | _ | _ | _⟩ | _ <;> cells64 top4_get

theorem src64_tk2Step_tk : ∀ e tk, cells4 ((src64 T).tk2Step e tk).2 = mapTop lfsr2_4 (permute PT (cells4 tk)) := by
  intro e tk; rw [mapTop_permute_PT]; rcases T with ⟨_ | _ | _ | _⟩ | _ <;> cells64 cells4_get

theorem src64_tk3Step_e : ∀ e tk, top4 ((src64 T).tk3Step e tk).1 = xorCells (top4 e) (topRows (cells4 tk)) := by
  intro e tk; rw [xorCells_lit]; rcases T with ⟨_ | _ | _ | _⟩ | _ <;> cells64 top4_get

theorem src64_tk3Step_tk : ∀ e tk, cells4 ((src64 T).tk3Step e tk).2 = mapTop lfsr3_4 (permute PT (cells4 tk)) := by
  intro e tk; rw [mapTop_permute_PT]; rcases T with ⟨_ | _ | _ | _⟩ | _ <;> cells64 cells4_get

end

/-- the loaders for a key of `k` bytes, `k = 1 … 8`, one configuration at a time -/
syntax "loader64" : tactic
macro_rules
  | `(tactic| loader64) => `(tactic|
    (intro k junk key h1 h2
     have : k ≤ 8 := by omega
     nat_cases k 9
     · omega
     all_goals bytes64))

theorem tk2Load64_64le : ∀ k junk key, 1 ≤ k → 8 * k ≤ 64 → (ops64 .c64le).tk2Load k junk key = key &&& BitVec.ofNat 64 (2 ^ (8 * k) - 1) := by
  loader64
theorem tk2Load64_32le : ∀ k junk key, 1 ≤ k → 8 * k ≤ 64 → (ops64 .c32le).tk2Load k junk key = key &&& BitVec.ofNat 64 (2 ^ (8 * k) - 1) := by
  loader64
theorem tk2Load64_64be : ∀ k junk key, 1 ≤ k → 8 * k ≤ 64 → (ops64 .c64be).tk2Load k junk key = key &&& BitVec.ofNat 64 (2 ^ (8 * k) - 1) := by
  loader64
theorem tk2Load64_32be : ∀ k junk key, 1 ≤ k → 8 * k ≤ 64 → (ops64 .c32be).tk2Load k junk key = key &&& BitVec.ofNat 64 (2 ^ (8 * k) - 1) := by
  loader64

theorem tk3Load64_64le : ∀ k junk key, 1 ≤ k → 8 * k ≤ 64 → (ops64 .c64le).tk3Load k junk key = key &&& BitVec.ofNat 64 (2 ^ (8 * k) - 1) := by
  loader64
theorem tk3Load64_32le : ∀ k junk key, 1 ≤ k → 8 * k ≤ 64 → (ops64 .c32le).tk3Load k junk key = key &&& BitVec.ofNat 64 (2 ^ (8 * k) - 1) := by
  loader64
theorem tk3Load64_64be : ∀ k junk key, 1 ≤ k → 8 * k ≤ 64 → (ops64 .c64be).tk3Load k junk key = key &&& BitVec.ofNat 64 (2 ^ (8 * k) - 1) := by
  loader64
theorem tk3Load64_32be : ∀ k junk key, 1 ≤ k → 8 * k ≤ 64 → (ops64 .c32be).tk3Load k junk key = key &&& BitVec.ofNat 64 (2 ^ (8 * k) - 1) := by
  loader64

theorem ard64_tk_loads (key : BitVec 64) : ard64_tk2_load key = key ∧ ard64_tk3_load key = key := by
  constructor <;> bytes64

theorem src64_correct (T : Src) : OpsCorrectG abs64 (src64 T) :=
  ⟨src64_encLoad T, src64_encStore T, src64_decLoad T, src64_decStore T, src64_encRound T, src64_decRound T,
   src64_tk1Load T, src64_tk1Step0_e T, src64_tk1Step0_tk T, src64_tk1Step0_rc T, src64_tk1Step1_e T,
   src64_tk1Step1_tk T, src64_tk1Step1_rc T, src64_xorTk1Load T, src64_xorTk1Step_e T, src64_xorTk1Step_tk T,
   src64_tk2Step_e T, src64_tk2Step_tk T, src64_tk3Step_e T, src64_tk3Step_tk T,
   match T with
   | .c .c64le => tk2Load64_64le | .c .c32le => tk2Load64_32le | .c .c64be => tk2Load64_64be | .c .c32be => tk2Load64_32be
   | .arduino => fun _ _ key _ _ => congrArg (· &&& _) (ard64_tk_loads key).1,
   match T with
   | .c .c64le => tk3Load64_64le | .c .c32le => tk3Load64_32le | .c .c64be => tk3Load64_64be | .c .c32be => tk3Load64_32be
   | .arduino => fun _ _ key _ _ => congrArg (· &&& _) (ard64_tk_loads key).2⟩

theorem opsG64 (t : Tag) : OpsCorrectG abs64 (ops64 t) := src64_correct (.c t)

end SkinnyVerif.Lemmas

namespace SkinnyVerif.Properties
open SkinnyVerif.Lemmas

theorem opsArdG64 : OpsCorrectG abs64 opsArd64 := src64_correct .arduino

end SkinnyVerif.Properties
