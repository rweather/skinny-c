/-
Schedule refinement (generic in the block size and the build configuration).  One invariant,
`Keyed`: the entries of the key schedule are the specification's round keys of a tweakey `t`.
Each of `set_tk1`, `set_tk2`, `set_tk3`, `xor_tk1` is a loop that xors the upper rows of a running
tweakey word into the entries, and acts on the invariant by changing one word of `t`.
-/
import SkinnyVerif.Impl.Skinny
import SkinnyVerif.Lemmas.OpsCorrect
import SkinnyVerif.Basic.BytesLemmas
import SkinnyVerif.Basic.Loops

namespace SkinnyVerif.Lemmas
open SkinnyVerif SkinnyVerif.Impl

def iter {τ : Type} (f : τ → τ) : Nat → τ → τ
  | 0, x => x
  | n + 1, x => f (iter f n x)

theorem getD_set {α : Type} (l : List α) (i j : Nat) (a d : α) :
    (l.set i a).getD j d = if i = j ∧ i < l.length then a else l.getD j d := by
  simp only [List.getD_eq_getElem?_getD, List.getElem?_set]
  by_cases h : i = j
  · subst h
    by_cases h2 : i < l.length
    · simp [h2]
    · simp [h2]
  · simp [h]

theorem schedFold_abs {α σ τ β : Type} (d : α) (step : α → σ → α × σ) (absS : σ → τ) (absE : α → β)
    (nextA : τ → τ) (F : β → τ → β)
    (hnext : ∀ e s, absS (step e s).2 = nextA (absS s))
    (hout : ∀ e s, absE (step e s).1 = F (absE e) (absS s))
    (r : Nat) (sched0 : List α) (s0 : σ) (hlen : r ≤ sched0.length) :
    absS (schedFold step d r sched0 s0).2 = iter nextA r (absS s0) ∧
    (schedFold step d r sched0 s0).1.length = sched0.length ∧
    (∀ i, i < r → absE ((schedFold step d r sched0 s0).1.getD i d) = F (absE (sched0.getD i d)) (iter nextA i (absS s0))) ∧
    (∀ i, r ≤ i → (schedFold step d r sched0 s0).1.getD i d = sched0.getD i d) := by
  induction r with
  | zero => simp [schedFold, iter]
  | succ r ih =>
    have ih := ih (by omega)
    obtain ⟨ih1, ih2, ih3, ih4⟩ := ih
    have hunf : schedFold step d (r + 1) sched0 s0 =
        (let acc := schedFold step d r sched0 s0
         let p := step (acc.1.getD r d) acc.2
         (acc.1.set r p.1, p.2)) := by
      simp [schedFold, List.range_succ, List.foldl_append]
    rw [hunf]
    refine ⟨?_, ?_, ?_, ?_⟩
    · simp only [hnext, ih1, iter]
    · simp [ih2]
    · intro i hi
      simp only [getD_set, ih2]
      by_cases hir : r = i
      · subst hir
        have hr : r < sched0.length := by omega
        simp only [true_and, hr, if_true, hout, ih1]
        rw [ih4 r (Nat.le_refl r)]
      · have : i < r := by omega
        simp only [hir, false_and, if_false]
        exact ih3 i this
    · intro i hi
      simp only [getD_set, ih2]
      have hir : ¬ r = i := by omega
      simp only [hir, false_and, if_false]
      exact ih4 i (by omega)

open SkinnyVerif.Gen SkinnyVerif.Spec.Skinny

/-! ## round constants -/

theorem iter_succ' {τ : Type} (f : τ → τ) (n : Nat) (x : τ) : iter f (n + 1) x = iter f n (f x) := by
  induction n with
  | zero => rfl
  | succ n ih => simp only [iter] at ih ⊢; rw [ih]

/-- the 8-bit counter the C code keeps is the specification's 6-bit LFSR, zero-extended -/
theorem rc_iter (i : Nat) : (rcAt i).setWidth 8 = rcStep8 (iter rcStep8 i 0) := by
  have step : ∀ r : BitVec 6, (rcNext r).setWidth 8 = rcStep8 (r.setWidth 8) := fun r => by
    have h := rcStep8_spec (r.setWidth 8) (by show (r.setWidth 8).toNat < 64; simp; omega)
    rw [BitVec.setWidth_setWidth_of_le _ (by decide), BitVec.setWidth_eq] at h
    rw [← h.1]
    exact BitVec.setWidth_setWidth_eq_self (show _ < BitVec.twoPow 8 6 from h.2)
  induction i with
  | zero => exact step 0
  | succ i ih => rw [rcAt, step, ih]; rfl

/-- `constCells` (spec) = constants kept in the schedule entry + the `c2` added in the round function -/
theorem constCells_split {s : Nat} (dom : BitVec s) (r : BitVec 6) :
    constCells s r dom = xorCells (constTop s (r.setWidth 8) dom) (c2cells s) := by
  have h0 : ((r.setWidth 8) &&& 0xf).setWidth s = (r &&& 0xf).setWidth s := by
    rw [show (0xf : BitVec 8) = (0xf : BitVec 6).setWidth 8 from rfl, ← BitVec.setWidth_and, BitVec.setWidth_setWidth (by omega)]
  have h4 : ((r.setWidth 8) >>> 4).setWidth s = (r >>> 4).setWidth s := by
    rw [← BitVec.setWidth_ushiftRight (by decide), BitVec.setWidth_setWidth (by omega)]
  apply Vector.ext; intro i hi
  simp only [constCells, constTop, c2cells, xorCells, Vector.getElem_ofFn, h0, h4]
  by_cases c8 : i = 8 <;> simp [c8]

/-! ## the specification's round keys in closed form -/
section spec
variable {s : Nat}

theorem tkAt_eq (co : CellOps s) (t : Tweakey s) (i : Nat) :
    tkAt co t i = ⟨iter (permute PT) i t.tk1, iter (fun c => mapTop co.lfsr2 (permute PT c)) i t.tk2,
                   iter (fun c => mapTop co.lfsr3 (permute PT c)) i t.tk3⟩ := by
  induction i with
  | zero => rfl
  | succ i ih => simp only [tkAt, ih, tkNext, iter]

theorem iter_permute_xor (p : Vector (Fin 16) 16) (n : Nat) (a b : Cells s) :
    iter (permute p) n (xorCells a b) = xorCells (iter (permute p) n a) (iter (permute p) n b) := by
  induction n with
  | zero => rfl
  | succ n ih => simp only [iter, ih, permute_xor]

/-- an unused tweakey word (all zero) stays zero -/
theorem iter_lfsr_zero (f : BitVec s → BitVec s) (hf : f (0#s) = 0#s) (n : Nat) :
    iter (fun c => mapTop f (permute PT c)) n (zeroCells s) = zeroCells s := by
  induction n with
  | zero => rfl
  | succ n ih => simp only [iter, ih, permute_zero, mapTop_zero f hf]

/-- a summand `y` joining the xor of the three running words shows up as `topRows y` in the round key -/
theorem roundKey_add (co : CellOps s) (t t' : Tweakey s) (dom : BitVec s) (i : Nat) (y : Cells s)
    (h : xorCells (tkAt co t' i).tk1 (xorCells (tkAt co t' i).tk2 (tkAt co t' i).tk3) =
      xorCells (xorCells (tkAt co t i).tk1 (xorCells (tkAt co t i).tk2 (tkAt co t i).tk3)) y) :
    roundKey co t' dom i = xorCells (roundKey co t dom i) (topRows y) := by
  simp only [roundKey, h, topRows_xor, xorCells_assoc]

/-- TK1 enters the round keys xor-linearly ... -/
theorem roundKey_tk1 (co : CellOps s) (a x c2 c3 : Cells s) (dom : BitVec s) (i : Nat) :
    roundKey co ⟨xorCells a x, c2, c3⟩ dom i = xorCells (roundKey co ⟨a, c2, c3⟩ dom i) (topRows (iter (permute PT) i x)) :=
  roundKey_add co _ _ dom i _ (by simp only [tkAt_eq, iter_permute_xor]; exact xorCells_right_comm _ _ _)

/-- ... and a word in the place of a zero TK2 or TK3 adds its own contribution -/
theorem roundKey_tk2 (co : CellOps s) (h0 : co.lfsr2 0 = 0) (a x c3 : Cells s) (dom : BitVec s) (i : Nat) :
    roundKey co ⟨a, x, c3⟩ dom i = xorCells (roundKey co ⟨a, zeroCells s, c3⟩ dom i)
      (topRows (iter (fun c => mapTop co.lfsr2 (permute PT c)) i x)) :=
  roundKey_add co _ _ dom i _ (by
    simp only [tkAt_eq, iter_lfsr_zero _ h0, zero_xorCells]; rw [xorCells_comm _ (iter _ i c3), ← xorCells_assoc])

theorem roundKey_tk3 (co : CellOps s) (h0 : co.lfsr3 0 = 0) (a c2 x : Cells s) (dom : BitVec s) (i : Nat) :
    roundKey co ⟨a, c2, x⟩ dom i = xorCells (roundKey co ⟨a, c2, zeroCells s⟩ dom i)
      (topRows (iter (fun c => mapTop co.lfsr3 (permute PT c)) i x)) :=
  roundKey_add co _ _ dom i _ (by simp only [tkAt_eq, iter_lfsr_zero _ h0, xorCells_zero, xorCells_assoc])

end spec

/-! ## the implementation's schedule loops -/

/-- facts about the abstraction of one block size -/
structure AbsOK {b h s : Nat} (A : Abs b h s) : Prop where
  lfsr2_zero : A.co.lfsr2 (0#s) = 0#s
  lfsr3_zero : A.co.lfsr3 (0#s) = 0#s
  cells_zero : A.cells 0 = zeroCells s

theorem absOK128 : AbsOK abs128 :=
  { lfsr2_zero := by decide, lfsr3_zero := by decide,
    cells_zero := by apply Vector.ext; intro i hi; simp [abs128, cells8, zeroCells, lane] }
theorem absOK64 : AbsOK abs64 :=
  { lfsr2_zero := by decide, lfsr3_zero := by decide,
    cells_zero := by apply Vector.ext; intro i hi; simp [abs64, cells4, zeroCells, lane] }

section impl
variable {b h s : Nat} {A : Abs b h s} {o : SkinnyOps b h}

/-- `ks` runs `r` rounds on the round keys of tweakey `t` with domain constant `dom`
(`Abs.rk` supplies the constant `c2`, which the C code adds in the round function) -/
structure Keyed (A : Abs b h s) (ks : KeySched h) (r : Nat) (t : Tweakey s) (dom : BitVec s) : Prop where
  rounds : ks.rounds = r
  len : r ≤ ks.sched.length
  rk : ∀ i, i < r → A.rk (ks.sched.getD i 0) = roundKey A.co t dom i

theorem iter_pair {σ τ : Type} (f : σ → σ) (g : τ → τ) (n : Nat) (c : σ) (r : τ) :
    iter (fun (p : σ × τ) => (f p.1, g p.2)) n (c, r) = (iter f n c, iter g n r) := by
  induction n with
  | zero => rfl
  | succ n ih => simp only [iter, ih]

/-- a schedule loop that xors the upper rows of the running word `f^i(tk0)` into entry `i` -/
theorem Keyed.xorPass {step : BitVec h → BitVec b → BitVec h × BitVec b} {f : Cells s → Cells s}
    (he : ∀ e tk, A.top (step e tk).1 = xorCells (A.top e) (topRows (A.cells tk)))
    (htk : ∀ e tk, A.cells (step e tk).2 = f (A.cells tk))
    {ks : KeySched h} {r : Nat} {t t' : Tweakey s} {dom : BitVec s} (hk : Keyed A ks r t dom) (tk0 : BitVec b)
    (ht : ∀ i, roundKey A.co t' dom i = xorCells (roundKey A.co t dom i) (topRows (iter f i (A.cells tk0)))) :
    Keyed A { ks with sched := (schedFold step 0 ks.rounds ks.sched tk0).1 } r t' dom := by
  obtain ⟨hr, hl, hrk⟩ := hk
  subst hr
  obtain ⟨_, h2, h3, _⟩ := schedFold_abs 0 step A.cells A.top f (fun e c => xorCells e (topRows c)) htk he
    ks.rounds ks.sched tk0 hl
  refine ⟨rfl, h2 ▸ hl, fun i hi => ?_⟩
  rw [ht, ← hrk i hi, Abs.rk, Abs.rk, h3 i hi, xorCells_right_comm]

variable (hc : OpsCorrectG A o) (ha : AbsOK A)
include hc

/-- `xor_tk1` -/
theorem Keyed.xor_tk1 {ks : KeySched h} {r : Nat} {a c2 c3 : Cells s} {dom : BitVec s}
    (hk : Keyed A ks r ⟨a, c2, c3⟩ dom) (key : Bytes) :
    Keyed A (xorTk1 o ks key) r ⟨xorCells a (A.cells (image b key)), c2, c3⟩ dom :=
  hk.xorPass hc.xorTk1Step_e hc.xorTk1Step_tk (o.xorTk1Load (image b key)) fun i => by
    rw [hc.xorTk1Load, roundKey_tk1]

/-- `set_tweak` (the two `xor_tk1` passes): the old TK1 is xored out, the new one in -/
theorem Keyed.set_tweak {ks : KeySched h} {r : Nat} {c2 c3 : Cells s} {dom : BitVec s} (old new : Bytes)
    (hk : Keyed A ks r ⟨A.cells (image b old), c2, c3⟩ dom) :
    Keyed A (xorTk1 o (xorTk1 o ks old) new) r ⟨A.cells (image b new), c2, c3⟩ dom := by
  have h := (hk.xor_tk1 hc old).xor_tk1 hc new
  rwa [xorCells_self, zero_xorCells] at h

include ha

/-- `set_tk2` on the first `n` bytes of `key`; the partial-word loader zero-pads whatever `junk` is.
(`f` is given by hand: `?f (A.cells tk) =?= mapTop _ (permute PT (A.cells tk))` is no pattern and costs the
unifier seconds.) -/
theorem Keyed.set_tk2 {ks : KeySched h} {r : Nat} {a c3 : Cells s} {dom : BitVec s}
    (hk : Keyed A ks r ⟨a, zeroCells s, c3⟩ dom) (key : Bytes) (n : Nat) (junk : BitVec b) (h1 : 1 ≤ n) (h8 : 8 * n ≤ b) :
    Keyed A (setTkN o false ks key n junk) r ⟨a, A.cells (image b (key.take n)), c3⟩ dom :=
  hk.xorPass (f := fun c => mapTop A.co.lfsr2 (permute PT c)) hc.tk2Step_e hc.tk2Step_tk
    (o.tk2Load n junk (image b (key.take n))) fun i => by
      rw [hc.tk2Load n junk _ h1 h8, image_and_mask b _ n (List.length_take_le n key), roundKey_tk2 _ ha.lfsr2_zero]

/-- `set_tk3` -/
theorem Keyed.set_tk3 {ks : KeySched h} {r : Nat} {a c2 : Cells s} {dom : BitVec s}
    (hk : Keyed A ks r ⟨a, c2, zeroCells s⟩ dom) (key : Bytes) (n : Nat) (junk : BitVec b) (h1 : 1 ≤ n) (h8 : 8 * n ≤ b) :
    Keyed A (setTkN o true ks key n junk) r ⟨a, c2, A.cells (image b (key.take n))⟩ dom :=
  hk.xorPass (f := fun c => mapTop A.co.lfsr3 (permute PT c)) hc.tk3Step_e hc.tk3Step_tk
    (o.tk3Load n junk (image b (key.take n))) fun i => by
      rw [hc.tk3Load n junk _ h1 h8, image_and_mask b _ n (List.length_take_le n key), roundKey_tk3 _ ha.lfsr3_zero]

/-- `set_tk1` overwrites the first `r` entries: upper rows of `PT^i(TK1)` and the constants of round `i`
(with the tweak-domain bit if `tweaked`) -/
theorem Keyed.set_tk1 (ks : KeySched h) (key : Bytes) (tweaked : Bool) {r : Nat} (hr : ks.rounds = r) (hl : r ≤ ks.sched.length) :
    Keyed A (setTk1 o ks key tweaked) r ⟨A.cells (image b key), zeroCells s, zeroCells s⟩ (if tweaked then 2 else 0) := by
  subst hr
  have hs : ∀ tk rc, A.top ((if tweaked then o.tk1Step1 else o.tk1Step0) tk rc).1 =
        xorCells (topRows (A.cells tk)) (constTop s (rcStep8 rc) (if tweaked then 2 else 0)) ∧
      A.cells ((if tweaked then o.tk1Step1 else o.tk1Step0) tk rc).2.1 = permute PT (A.cells tk) ∧
      ((if tweaked then o.tk1Step1 else o.tk1Step0) tk rc).2.2 = rcStep8 rc := by
    cases tweaked
    · exact fun tk rc => ⟨hc.tk1Step0_e tk rc, hc.tk1Step0_tk tk rc, hc.tk1Step0_rc tk rc⟩
    · exact fun tk rc => ⟨hc.tk1Step1_e tk rc, hc.tk1Step1_tk tk rc, hc.tk1Step1_rc tk rc⟩
  obtain ⟨_, h2, h3, _⟩ := schedFold_abs (0 : BitVec h)
    (fun _ (st : BitVec b × BitVec 8) => let p := (if tweaked then o.tk1Step1 else o.tk1Step0) st.1 st.2; (p.1, (p.2.1, p.2.2)))
    (fun st => (A.cells st.1, st.2)) A.top (fun p => (permute PT p.1, rcStep8 p.2))
    (fun _ p => xorCells (topRows p.1) (constTop s (rcStep8 p.2) (if tweaked then 2 else 0)))
    (fun _ st => by simp only [(hs st.1 st.2).2.1, (hs st.1 st.2).2.2]) (fun _ st => (hs st.1 st.2).1)
    ks.rounds ks.sched ((o.tk1Load (image b key)).1, (o.tk1Load (image b key)).2) hl
  refine ⟨rfl, h2 ▸ hl, fun i hi => ?_⟩
  rw [Abs.rk, show A.top ((setTk1 o ks key tweaked).sched.getD i 0) = _ from h3 i hi, hc.tk1Load, iter_pair]
  simp only [roundKey, tkAt_eq, constCells_split, rc_iter, iter_lfsr_zero _ ha.lfsr2_zero, iter_lfsr_zero _ ha.lfsr3_zero,
    xorCells_zero]
  rw [xorCells_comm (xorCells _ (c2cells s)), xorCells_assoc]

end impl
end SkinnyVerif.Lemmas
