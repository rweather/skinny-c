/-
The cell operations of the specification (`Spec/Skinny.lean`, `Spec/Mantis.lean`), as the proofs use them:
what each does to cell `i`, the algebra of the xor of states, and the literal 16-tuple form of every
operation that is defined through an index table, so that refinement proofs can compare cell by cell.
-/
import SkinnyVerif.Basic.Lanes
import SkinnyVerif.Spec.Skinny
import SkinnyVerif.Spec.Mantis

namespace SkinnyVerif.Lemmas
open SkinnyVerif SkinnyVerif.Spec.Skinny

theorem finRange4 : List.finRange 4 = [0, 1, 2, 3] := by decide

@[simp] theorem f4v0 : ((0 : Fin 4) : Nat) = 0 := rfl
@[simp] theorem f4v1 : ((1 : Fin 4) : Nat) = 1 := rfl
@[simp] theorem f4v2 : ((2 : Fin 4) : Nat) = 2 := rfl
@[simp] theorem f4v3 : ((3 : Fin 4) : Nat) = 3 := rfl
@[simp] theorem f16v0 : ((0 : Fin 16) : Nat) = 0 := rfl
@[simp] theorem f16v1 : ((1 : Fin 16) : Nat) = 1 := rfl
@[simp] theorem f16v2 : ((2 : Fin 16) : Nat) = 2 := rfl
@[simp] theorem f16v3 : ((3 : Fin 16) : Nat) = 3 := rfl
@[simp] theorem f16v4 : ((4 : Fin 16) : Nat) = 4 := rfl
@[simp] theorem f16v5 : ((5 : Fin 16) : Nat) = 5 := rfl
@[simp] theorem f16v6 : ((6 : Fin 16) : Nat) = 6 := rfl
@[simp] theorem f16v7 : ((7 : Fin 16) : Nat) = 7 := rfl
@[simp] theorem f16v8 : ((8 : Fin 16) : Nat) = 8 := rfl
@[simp] theorem f16v9 : ((9 : Fin 16) : Nat) = 9 := rfl
@[simp] theorem f16v10 : ((10 : Fin 16) : Nat) = 10 := rfl
@[simp] theorem f16v11 : ((11 : Fin 16) : Nat) = 11 := rfl
@[simp] theorem f16v12 : ((12 : Fin 16) : Nat) = 12 := rfl
@[simp] theorem f16v13 : ((13 : Fin 16) : Nat) = 13 := rfl
@[simp] theorem f16v14 : ((14 : Fin 16) : Nat) = 14 := rfl
@[simp] theorem f16v15 : ((15 : Fin 16) : Nat) = 15 := rfl

/-- a vector of 16 cells is the literal vector of its entries -/
theorem cells_eta {s : Nat} (st : Cells s) :
    st = #v[st[0], st[1], st[2], st[3], st[4], st[5], st[6], st[7], st[8], st[9], st[10], st[11], st[12], st[13], st[14], st[15]] := by
  apply Vector.ext; intro i hi
  nat_cases i 16 <;> simp

/- Below, the bound of a literal index into a state is decided.  (The default `get_elem_tactic` first rewrites every
hypothesis in sight with nine range lemmas and then calls `omega`: in a statement with sixteen hypotheses about cells that
is most of the cost of checking it.) -/
local macro_rules | `(tactic| get_elem_tactic_extensible) => `(tactic| decide)

section forms
variable {s : Nat} (st : Cells s)

theorem xorCells_get (a b : Cells s) (i : Nat) (hi : i < 16) : (xorCells a b)[i] = a[i] ^^^ b[i] := by
  simp [xorCells]

theorem subCells_get (f : BitVec s → BitVec s) (i : Nat) (hi : i < 16) : (subCells f st)[i] = f st[i] := by
  simp [subCells]

theorem permute_get (p : Vector (Fin 16) 16) (i : Nat) (hi : i < 16) : (permute p st)[i] = st[p[i]] := by
  simp [permute]

/-- a cell of `mulColumns`: the sum over its column of the cells that its row of the matrix selects -/
theorem mulColumns_get (m : Vector (Vector Bool 4) 4) (i : Nat) (hi : i < 16) : (mulColumns m st)[i] =
    [0, 1, 2, 3].foldl (fun acc (k : Fin 4) => if m[rowOf ⟨i, hi⟩][k] then acc ^^^ st[cellIx k (colOf ⟨i, hi⟩)] else acc) 0#s := by
  rw [mulColumns, Vector.getElem_ofFn, finRange4]; rfl

theorem topRows_get (i : Nat) (hi : i < 16) : (topRows st)[i] = if i < 8 then st[i] else 0 := by
  simp [topRows]

theorem mapTop_get (f : BitVec s → BitVec s) (i : Nat) (hi : i < 16) : (mapTop f st)[i] = if i < 8 then f st[i] else st[i] := by
  simp [mapTop]

/-! ## the xor of states -/

theorem xorCells_comm (a b : Cells s) : xorCells a b = xorCells b a :=
  Vector.ext fun i hi => by rw [xorCells_get, xorCells_get, BitVec.xor_comm]
theorem xorCells_assoc (a b c : Cells s) : xorCells (xorCells a b) c = xorCells a (xorCells b c) := by
  apply Vector.ext; intro i hi; simp [xorCells, BitVec.xor_assoc]
theorem xorCells_right_comm (a b c : Cells s) : xorCells (xorCells a b) c = xorCells (xorCells a c) b := by
  rw [xorCells_assoc, xorCells_comm b, ← xorCells_assoc]
theorem xorCells_zero (a : Cells s) : xorCells a (zeroCells s) = a := by
  apply Vector.ext; intro i hi; simp [xorCells, zeroCells]
theorem zero_xorCells (a : Cells s) : xorCells (zeroCells s) a = a := by
  rw [xorCells_comm, xorCells_zero]
theorem xorCells_self (a : Cells s) : xorCells a a = zeroCells s := by
  apply Vector.ext; intro i hi; simp [xorCells, zeroCells]
theorem xorCells_cancel (a k : Cells s) : xorCells (xorCells a k) k = a := by
  rw [xorCells_assoc, xorCells_self, xorCells_zero]

theorem topRows_xor (a b : Cells s) : topRows (xorCells a b) = xorCells (topRows a) (topRows b) := by
  apply Vector.ext; intro i hi
  by_cases h : i < 8 <;> simp [topRows, xorCells, h]
theorem topRows_zero : topRows (zeroCells s) = zeroCells s := by
  apply Vector.ext; intro i hi; simp [topRows, zeroCells]
theorem mapTop_zero (f : BitVec s → BitVec s) (hf : f (0#s) = 0#s) : mapTop f (zeroCells s) = zeroCells s := by
  apply Vector.ext; intro i hi; simp [mapTop, zeroCells, hf]
theorem permute_zero (p : Vector (Fin 16) 16) : permute p (zeroCells s) = zeroCells s := by
  apply Vector.ext; intro i hi; simp [permute, zeroCells]
theorem permute_xor (p : Vector (Fin 16) 16) (a b : Cells s) : permute p (xorCells a b) = xorCells (permute p a) (permute p b) := by
  apply Vector.ext; intro i hi; simp [permute, xorCells]

/-- two cell permutations of which one undoes the other's index table undo each other -/
theorem permute_permute (p q : Vector (Fin 16) 16) (h : ∀ i : Fin 16, q[p[i]] = i) : permute p (permute q st) = st := by
  apply Vector.ext; intro i hi
  rw [permute_get, Fin.getElem_fin, permute_get]
  exact congrArg (fun j : Fin 16 => st[j]) (h ⟨i, hi⟩)

theorem subCells_comp (f g : BitVec s → BitVec s) (h : ∀ x, g (f x) = x) : subCells g (subCells f st) = st :=
  Vector.ext fun i hi => by rw [subCells_get, subCells_get, h]

/-! ## literal forms -/

/-- a state is a given literal vector if it is so cell by cell (no indexing into the literal) -/
theorem cells_eq_lit (b0 b1 b2 b3 b4 b5 b6 b7 b8 b9 b10 b11 b12 b13 b14 b15 : BitVec s)
    (h0 : st[0] = b0) (h1 : st[1] = b1) (h2 : st[2] = b2) (h3 : st[3] = b3)
    (h4 : st[4] = b4) (h5 : st[5] = b5) (h6 : st[6] = b6) (h7 : st[7] = b7)
    (h8 : st[8] = b8) (h9 : st[9] = b9) (h10 : st[10] = b10) (h11 : st[11] = b11)
    (h12 : st[12] = b12) (h13 : st[13] = b13) (h14 : st[14] = b14) (h15 : st[15] = b15) :
    st = #v[b0, b1, b2, b3, b4, b5, b6, b7, b8, b9, b10, b11, b12, b13, b14, b15] := by
  subst_vars; exact cells_eta st

/-- … or if the list of its cells (read through `g`) is the list of the entries: all sixteen cells in
one goal, so that one `windows` call unfolds and normalises what they share once -/
theorem cells_eq_list (g : Nat → BitVec s) (hg : ∀ i (h : i < 16), st[i] = g i)
    (b0 b1 b2 b3 b4 b5 b6 b7 b8 b9 b10 b11 b12 b13 b14 b15 : BitVec s)
    (h : (List.range 16).map g = [b0, b1, b2, b3, b4, b5, b6, b7, b8, b9, b10, b11, b12, b13, b14, b15]) :
    st = #v[b0, b1, b2, b3, b4, b5, b6, b7, b8, b9, b10, b11, b12, b13, b14, b15] := by
  simp only [List.range, List.range.loop, List.map, List.cons.injEq, and_true] at h
  obtain ⟨h0, h1, h2, h3, h4, h5, h6, h7, h8, h9, h10, h11, h12, h13, h14, h15⟩ := h
  apply cells_eq_lit <;> (rw [hg]; assumption)

theorem permute_PT : permute PT st =
    #v[st[9], st[15], st[8], st[13], st[10], st[14], st[12], st[11], st[0], st[1], st[2], st[3], st[4], st[5], st[6], st[7]] := by
  apply cells_eq_lit <;> (rw [permute_get]; rfl)

/- A cell of `mulColumns` under a given matrix: which entries of the row are set is decided and the fold starts from
zero; the indices of the cells it adds up are definitional. -/
theorem mulColumns_M : mulColumns M st =
    #v[st[0] ^^^ st[8] ^^^ st[12], st[1] ^^^ st[9] ^^^ st[13], st[2] ^^^ st[10] ^^^ st[14], st[3] ^^^ st[11] ^^^ st[15],
       st[0], st[1], st[2], st[3],
       st[4] ^^^ st[8], st[5] ^^^ st[9], st[6] ^^^ st[10], st[7] ^^^ st[11],
       st[0] ^^^ st[8], st[1] ^^^ st[9], st[2] ^^^ st[10], st[3] ^^^ st[11]] := by
  apply cells_eq_lit <;>
    (rw [mulColumns_get]; simp +decide only [List.foldl_cons, List.foldl_nil, ↓reduceIte, BitVec.zero_xor]; rfl)

theorem mulColumns_Minv : mulColumns Minv st =
    #v[st[4], st[5], st[6], st[7],
       st[4] ^^^ st[8] ^^^ st[12], st[5] ^^^ st[9] ^^^ st[13], st[6] ^^^ st[10] ^^^ st[14], st[7] ^^^ st[11] ^^^ st[15],
       st[4] ^^^ st[12], st[5] ^^^ st[13], st[6] ^^^ st[14], st[7] ^^^ st[15],
       st[0] ^^^ st[12], st[1] ^^^ st[13], st[2] ^^^ st[14], st[3] ^^^ st[15]] := by
  apply cells_eq_lit <;>
    (rw [mulColumns_get]; simp +decide only [List.foldl_cons, List.foldl_nil, ↓reduceIte, BitVec.zero_xor]; rfl)

theorem xorCells_lit (a b : Cells s) : xorCells a b =
    #v[a[0] ^^^ b[0], a[1] ^^^ b[1], a[2] ^^^ b[2], a[3] ^^^ b[3], a[4] ^^^ b[4], a[5] ^^^ b[5], a[6] ^^^ b[6], a[7] ^^^ b[7],
       a[8] ^^^ b[8], a[9] ^^^ b[9], a[10] ^^^ b[10], a[11] ^^^ b[11], a[12] ^^^ b[12], a[13] ^^^ b[13], a[14] ^^^ b[14],
       a[15] ^^^ b[15]] := by
  apply cells_eq_lit <;> exact xorCells_get ..

theorem mapTop_permute_PT (f : BitVec s → BitVec s) : mapTop f (permute PT st) =
    #v[f st[9], f st[15], f st[8], f st[13], f st[10], f st[14], f st[12], f st[11],
       st[0], st[1], st[2], st[3], st[4], st[5], st[6], st[7]] := by
  apply cells_eq_lit <;> (rw [mapTop_get, permute_get]; rfl)

theorem round_lit (o : CellOps s) (rk : Cells s) : round o rk st =
    #v[o.S st[0] ^^^ rk[0] ^^^ (o.S st[10] ^^^ rk[10]) ^^^ (o.S st[13] ^^^ rk[13]),
       o.S st[1] ^^^ rk[1] ^^^ (o.S st[11] ^^^ rk[11]) ^^^ (o.S st[14] ^^^ rk[14]),
       o.S st[2] ^^^ rk[2] ^^^ (o.S st[8] ^^^ rk[8]) ^^^ (o.S st[15] ^^^ rk[15]),
       o.S st[3] ^^^ rk[3] ^^^ (o.S st[9] ^^^ rk[9]) ^^^ (o.S st[12] ^^^ rk[12]),
       o.S st[0] ^^^ rk[0], o.S st[1] ^^^ rk[1], o.S st[2] ^^^ rk[2], o.S st[3] ^^^ rk[3],
       o.S st[7] ^^^ rk[7] ^^^ (o.S st[10] ^^^ rk[10]), o.S st[4] ^^^ rk[4] ^^^ (o.S st[11] ^^^ rk[11]),
       o.S st[5] ^^^ rk[5] ^^^ (o.S st[8] ^^^ rk[8]), o.S st[6] ^^^ rk[6] ^^^ (o.S st[9] ^^^ rk[9]),
       o.S st[0] ^^^ rk[0] ^^^ (o.S st[10] ^^^ rk[10]), o.S st[1] ^^^ rk[1] ^^^ (o.S st[11] ^^^ rk[11]),
       o.S st[2] ^^^ rk[2] ^^^ (o.S st[8] ^^^ rk[8]), o.S st[3] ^^^ rk[3] ^^^ (o.S st[9] ^^^ rk[9])] := by
  rw [round, mulColumns_M]
  simp only [permute_get, Fin.getElem_fin, xorCells_get, subCells_get]
  rfl

theorem roundInv_lit (o : CellOps s) (rk : Cells s) : roundInv o rk st =
    #v[o.Sinv (st[4] ^^^ rk[0]), o.Sinv (st[5] ^^^ rk[1]), o.Sinv (st[6] ^^^ rk[2]), o.Sinv (st[7] ^^^ rk[3]),
       o.Sinv (st[5] ^^^ st[9] ^^^ st[13] ^^^ rk[4]), o.Sinv (st[6] ^^^ st[10] ^^^ st[14] ^^^ rk[5]),
       o.Sinv (st[7] ^^^ st[11] ^^^ st[15] ^^^ rk[6]), o.Sinv (st[4] ^^^ st[8] ^^^ st[12] ^^^ rk[7]),
       o.Sinv (st[6] ^^^ st[14] ^^^ rk[8]), o.Sinv (st[7] ^^^ st[15] ^^^ rk[9]),
       o.Sinv (st[4] ^^^ st[12] ^^^ rk[10]), o.Sinv (st[5] ^^^ st[13] ^^^ rk[11]),
       o.Sinv (st[3] ^^^ st[15] ^^^ rk[12]), o.Sinv (st[0] ^^^ st[12] ^^^ rk[13]),
       o.Sinv (st[1] ^^^ st[13] ^^^ rk[14]), o.Sinv (st[2] ^^^ st[14] ^^^ rk[15])] := by
  apply cells_eq_lit <;> (rw [roundInv, subCells_get, xorCells_get, permute_get, mulColumns_Minv]; rfl)

/-! the cell operations of MANTIS -/

open SkinnyVerif.Spec.Mantis

theorem permute_h : permute hPerm st =
    #v[st[6], st[5], st[14], st[15], st[0], st[1], st[2], st[3], st[7], st[12], st[13], st[4], st[8], st[9], st[10], st[11]] := by
  apply cells_eq_lit <;> (rw [permute_get]; rfl)

theorem permute_hInv : permute hInv st =
    #v[st[4], st[5], st[6], st[7], st[11], st[1], st[0], st[8], st[12], st[13], st[14], st[15], st[9], st[10], st[2], st[3]] := by
  apply cells_eq_lit <;> (rw [permute_get]; rfl)

theorem permute_MP : permute PPerm st =
    #v[st[0], st[11], st[6], st[13], st[10], st[1], st[12], st[7], st[5], st[14], st[3], st[8], st[15], st[4], st[9], st[2]] := by
  apply cells_eq_lit <;> (rw [permute_get]; rfl)

theorem permute_MPinv : permute PInv st =
    #v[st[0], st[5], st[15], st[10], st[13], st[8], st[2], st[7], st[11], st[14], st[4], st[1], st[6], st[3], st[9], st[12]] := by
  apply cells_eq_lit <;> (rw [permute_get]; rfl)

theorem mulColumns_MM : mulColumns MM st =
    #v[st[4] ^^^ st[8] ^^^ st[12], st[5] ^^^ st[9] ^^^ st[13], st[6] ^^^ st[10] ^^^ st[14], st[7] ^^^ st[11] ^^^ st[15],
       st[0] ^^^ st[8] ^^^ st[12], st[1] ^^^ st[9] ^^^ st[13], st[2] ^^^ st[10] ^^^ st[14], st[3] ^^^ st[11] ^^^ st[15],
       st[0] ^^^ st[4] ^^^ st[12], st[1] ^^^ st[5] ^^^ st[13], st[2] ^^^ st[6] ^^^ st[14], st[3] ^^^ st[7] ^^^ st[15],
       st[0] ^^^ st[4] ^^^ st[8], st[1] ^^^ st[5] ^^^ st[9], st[2] ^^^ st[6] ^^^ st[10], st[3] ^^^ st[7] ^^^ st[11]] := by
  apply cells_eq_lit <;>
    (rw [mulColumns_get]; simp +decide only [List.foldl_cons, List.foldl_nil, ↓reduceIte, BitVec.zero_xor]; rfl)

end forms
end SkinnyVerif.Lemmas
