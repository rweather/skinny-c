-- root of the library: everything that `lake build SkinnyVerif` must check
import SkinnyVerif.Basic.Tactics
import SkinnyVerif.Basic.Lanes
import SkinnyVerif.Basic.Finite
import SkinnyVerif.Basic.Bytes
import SkinnyVerif.Spec.Skinny
import SkinnyVerif.Spec.Mantis
import SkinnyVerif.Spec.Modes
import SkinnyVerif.Spec.Vectors
import SkinnyVerif.Gen.Facts
import SkinnyVerif.Gen.Skinny128LeafLanes
import SkinnyVerif.Gen.Skinny64LeafLanes
import SkinnyVerif.Gen.MantisLeafLanes
import SkinnyVerif.Gen.Arduino128LeafOuts
import SkinnyVerif.Gen.Arduino128PiecesOuts
import SkinnyVerif.Gen.Arduino64LeafOuts
import SkinnyVerif.Gen.Arduino64PiecesOuts
import SkinnyVerif.Gen.ArduinoMantisKeyOuts
import SkinnyVerif.Gen.ArduinoMantisLeafOuts
import SkinnyVerif.Gen.ArduinoMantisPiecesOuts
import SkinnyVerif.Gen.MantisLeafOuts
import SkinnyVerif.Gen.MantisPiecesOuts
import SkinnyVerif.Gen.Skinny128LeafOuts
import SkinnyVerif.Gen.Skinny128PiecesOuts
import SkinnyVerif.Gen.Skinny64LeafOuts
import SkinnyVerif.Gen.Skinny64PiecesOuts
import SkinnyVerif.Gen.Vec128LeafOuts
import SkinnyVerif.Gen.Vec128PiecesOuts
import SkinnyVerif.Gen.Vec256LeafOuts
import SkinnyVerif.Gen.Vec256PiecesOuts
import SkinnyVerif.Gen.Vec64LeafOuts
import SkinnyVerif.Gen.Vec64PiecesOuts
import SkinnyVerif.Gen.VecCounterLeafOuts
import SkinnyVerif.Gen.VecCtr128LeafOuts
import SkinnyVerif.Gen.VecCtr128PiecesOuts
import SkinnyVerif.Gen.VecCtr256LeafOuts
import SkinnyVerif.Gen.VecCtr256PiecesOuts
import SkinnyVerif.Gen.VecCtr64LeafOuts
import SkinnyVerif.Gen.VecCtr64PiecesOuts
import SkinnyVerif.Gen.VecMantisCtrLeafOuts
import SkinnyVerif.Gen.VecMantisCtrPiecesOuts
import SkinnyVerif.Gen.VecMantisLeafOuts
import SkinnyVerif.Gen.VecMantisPiecesOuts
import SkinnyVerif.Gen.VecU0PiecesOuts
import SkinnyVerif.Gen.XorLeafOuts
import SkinnyVerif.Impl.Skinny
import SkinnyVerif.Impl.Mantis
import SkinnyVerif.Impl.Modes
import SkinnyVerif.Api.World
import SkinnyVerif.Lemmas.Tables
import SkinnyVerif.Properties.C01
import SkinnyVerif.Properties.C03
import SkinnyVerif.Properties.C04
import SkinnyVerif.Properties.C05
import SkinnyVerif.Properties.C06
import SkinnyVerif.Properties.C10
import SkinnyVerif.Properties.C11
import SkinnyVerif.Properties.C12
import SkinnyVerif.Api.Machine
import SkinnyVerif.Properties.Objects
import SkinnyVerif.Properties.C14
import SkinnyVerif.Properties.C13
import SkinnyVerif.Properties.C07
import SkinnyVerif.Properties.C08
import SkinnyVerif.Properties.C18
import SkinnyVerif.Properties.C02
import SkinnyVerif.Properties.C03M
import SkinnyVerif.Properties.C20
import SkinnyVerif.Properties.C19
import SkinnyVerif.Properties.C19M
import SkinnyVerif.Properties.C07V
import SkinnyVerif.Properties.C05V
import SkinnyVerif.Properties.C07M
import SkinnyVerif.Properties.C06V
import SkinnyVerif.Properties.C07L
import SkinnyVerif.Properties.C18I
import SkinnyVerif.Properties.C09X
import SkinnyVerif.Properties.C07ML
import SkinnyVerif.Properties.C07X
import SkinnyVerif.Properties.C08G
import SkinnyVerif.Properties.C06R
